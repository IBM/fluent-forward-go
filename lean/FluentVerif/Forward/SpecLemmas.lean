import FluentVerif.Forward.Spec
/-! what the specification's `chunkOf` computes, one step at a time -/
namespace FV
open Spec

/-- the chunk id in an option element -/
def optChunk : Obj → Option Bytes
  | .map kvs => chunkOfKVs kvs
  | _ => none

theorem chunkOf_of_optionsOf {o opt} (h : optionsOf o = some opt) : chunkOf o = optChunk opt := by
  unfold chunkOf; rw [h]; cases opt <;> rfl

theorem chunkOfKVs_cons (s : Bytes) (v : Obj) (rest : Objs) :
    chunkOfKVs (.cons (.str s) (.cons v rest)) =
      if s = sChunk then (match v with | .str c => some c | .bin c => some c | _ => none) else chunkOfKVs rest := by
  unfold chunkOfKVs
  simp only [objsToList, pairs, List.find?_cons]
  by_cases e : s = sChunk
  · rw [if_pos e, beq_iff_eq.2 e]; cases v <;> rfl
  · rw [if_neg e, beq_eq_false_iff_ne.2 e]

end FV
