import FluentVerif.Msgp.Read
import FluentVerif.Proto.Types
/-! Model of the repository's decoders, hand-written (`message.go`, `forward_message.go`,
`packed_forward_message.go`) and msgp-generated (`*_gen.go`), statement by statement.
The receiver is an explicit argument (C18 is about it).  `Path` selects `UnmarshalMsg` (slice)
or `DecodeMsg` (stream). -/
namespace FV

/-! ### generated map decoders: `for zb0001 > 0 { key; switch key {…; default: Skip} }` -/

/-- the generic loop; `h k` is the `case` body for key `k` (`none` = `default: Skip`) -/
def readFields {σ : Type} (p : Path) (h : Bytes → Option (σ → Bytes → Res σ)) : Nat → σ → Bytes → Res σ
  | 0, s, b => .ok s b
  | n+1, s, b =>
    (readMapKey p b).bind fun k b1 =>
      match h k with
      | some f => (f s b1).bind fun s' b2 => readFields p h n s' b2
      | none => (skipP p b1).bind fun _ b2 => readFields p h n s b2

/-- `case "size"`: nil → `Size = nil`, else `ReadInt` -/
def Options.sizeField (o : Options) (b : Bytes) : Res Options :=
  if isNil b then (readNil b).map fun _ => { o with size := none }
  else (readInt64 b).map fun i => { o with size := some i }

def Options.handlers (k : Bytes) : Option (Options → Bytes → Res Options) :=
  if k = kSize then some Options.sizeField
  else if k = kChunk then some fun o b => (readString b).map fun s => { o with chunk := s }
  else if k = kCompressed then some fun o b => (readString b).map fun s => { o with compressed := s }
  else none

/-- `MessageOptions.UnmarshalMsg` / `DecodeMsg` -/
def Options.unmarshal (p : Path) (recv : Options) (b : Bytes) : Res Options :=
  (readMapHeader b).bind fun n b1 => readFields p Options.handlers n recv b1

def Ack.handlers (k : Bytes) : Option (Ack → Bytes → Res Ack) :=
  if k = kAck then some fun _ b => (readString b).map fun s => { ack := s }
  else none

/-- `AckMessage.UnmarshalMsg` / `DecodeMsg` -/
def Ack.unmarshal (p : Path) (recv : Ack) (b : Bytes) : Res Ack :=
  (readMapHeader b).bind fun n b1 => readFields p Ack.handlers n recv b1

def HeloOpts.handlers (k : Bytes) : Option (HeloOpts → Bytes → Res HeloOpts) :=
  if k = kNonce then some fun o b => (readBytes b).map fun s => { o with nonce := s }
  else if k = kAuth then some fun o b => (readBytes b).map fun s => { o with auth := s }
  else if k = kKeepalive then some fun o b => (readBool b).map fun v => { o with keepalive := v }
  else none

/-- `HeloOpts.UnmarshalMsg` / `DecodeMsg` -/
def HeloOpts.unmarshal (p : Path) (recv : HeloOpts) (b : Bytes) : Res HeloOpts :=
  (readMapHeader b).bind fun n b1 => readFields p HeloOpts.handlers n recv b1

/-! ### generated tuple decoders: exact arity, else `ArrayError` -/

/-- `Helo`: `[MessageType, Options|nil]`; an existing `Options` object of the receiver is reused -/
def Helo.unmarshal (p : Path) (recv : Helo) (b : Bytes) : Res Helo :=
  (readArrayHeader b).bind fun sz b1 =>
    if sz ≠ 2 then .err else
    (readString b1).bind fun mt b2 =>
      if isNil b2 then (readNil b2).map fun _ => { mtype := mt, options := none }
      else (HeloOpts.unmarshal p (recv.options.getD {}) b2).map fun o => { mtype := mt, options := some o }

def Ping.unmarshal (_p : Path) (_recv : Ping) (b : Bytes) : Res Ping :=
  (readArrayHeader b).bind fun sz b1 =>
    if sz ≠ 6 then .err else
    (readString b1).bind fun mt b2 =>
    (readString b2).bind fun host b3 =>
    (readBytes b3).bind fun salt b4 =>
    (readString b4).bind fun dig b5 =>
    (readString b5).bind fun user b6 =>
    (readString b6).map fun pw =>
      { mtype := mt, hostname := host, salt := salt, digest := dig, username := user, password := pw }

def Pong.unmarshal (_p : Path) (_recv : Pong) (b : Bytes) : Res Pong :=
  (readArrayHeader b).bind fun sz b1 =>
    if sz ≠ 5 then .err else
    (readString b1).bind fun mt b2 =>
    (readBool b2).bind fun ar b3 =>
    (readString b3).bind fun reason b4 =>
    (readString b4).bind fun host b5 =>
    (readString b5).map fun dig =>
      { mtype := mt, authResult := ar, reason := reason, hostname := host, digest := dig }

def Entry.unmarshal (p : Path) (_recv : Entry) (b : Bytes) : Res Entry :=
  (readArrayHeader b).bind fun sz b1 =>
    if sz ≠ 2 then .err else
    (readInt64 b1).bind fun ts b2 =>
    (readIntf p b2).map fun r => { ts := ts, record := r }

def EntryExt.unmarshal (p : Path) (_recv : EntryExt) (b : Bytes) : Res EntryExt :=
  (readArrayHeader b).bind fun sz b1 =>
    if sz ≠ 2 then .err else
    (readEventTime b1).bind fun ts b2 =>
    (readIntf p b2).map fun r => { ts := ts, record := r }

/-- the element loop of `EntryList.UnmarshalMsg` / `DecodeMsg` -/
def readEntries (p : Path) : Nat → Bytes → Res (List EntryExt)
  | 0, b => .ok [] b
  | n+1, b => (EntryExt.unmarshal p {} b).bind fun e b1 => (readEntries p n b1).map (e :: ·)

/-- `EntryList.UnmarshalMsg` / `DecodeMsg` -/
def EntryList.unmarshal (p : Path) (b : Bytes) : Res (List EntryExt) :=
  (readArrayHeader b).bind fun n b1 => readEntries p n b1

/-! ### the optional trailing options element of the four hand-written decoders -/

/-- `if NextType == Nil { ReadNil } else { Options = &MessageOptions{}; Options.Unmarshal }` -/
def readOptionsOrNil (p : Path) (b : Bytes) : Res (Option Options) :=
  if isNil b then (readNil b).map fun _ => none
  else (Options.unmarshal p {} b).map some

/-! ### hand-written decoders (with the arity check and the cleared `Options` of the `fix:` commits) -/

/-- `Message.UnmarshalMsg` / `DecodeMsg` -/
def Message.unmarshal (p : Path) (recv : Message) (b : Bytes) : Res Message :=
  (readArrayHeader b).bind fun sz b1 =>
    if sz ≠ 3 ∧ sz ≠ 4 then .err else
    let recv := { recv with options := none }
    (readString b1).bind fun tag b2 =>
    (readInt64 b2).bind fun ts b3 =>
    (readIntf p b3).bind fun r b4 =>
      let m := { recv with tag := tag, ts := ts, record := r }
      if sz = 4 then (readOptionsOrNil p b4).map fun o => { m with options := o }
      else .ok m b4

/-- `MessageExt.UnmarshalMsg` / `DecodeMsg` -/
def MessageExt.unmarshal (p : Path) (recv : MessageExt) (b : Bytes) : Res MessageExt :=
  (readArrayHeader b).bind fun sz b1 =>
    if sz ≠ 3 ∧ sz ≠ 4 then .err else
    let recv := { recv with options := none }
    (readString b1).bind fun tag b2 =>
    (readEventTime b2).bind fun ts b3 =>
    (readIntf p b3).bind fun r b4 =>
      let m := { recv with tag := tag, ts := ts, record := r }
      if sz = 4 then (readOptionsOrNil p b4).map fun o => { m with options := o }
      else .ok m b4

/-- `ForwardMessage.UnmarshalMsg` / `DecodeMsg` -/
def Forward.unmarshal (p : Path) (recv : Forward) (b : Bytes) : Res Forward :=
  (readArrayHeader b).bind fun sz b1 =>
    if sz ≠ 2 ∧ sz ≠ 3 then .err else
    let recv := { recv with options := none }
    (readString b1).bind fun tag b2 =>
    (EntryList.unmarshal p b2).bind fun es b3 =>
      let m := { recv with tag := tag, entries := es }
      if sz = 3 then (readOptionsOrNil p b3).map fun o => { m with options := o }
      else .ok m b3

/-- `PackedForwardMessage.UnmarshalMsg` / `DecodeMsg` -/
def Packed.unmarshal (p : Path) (recv : Packed) (b : Bytes) : Res Packed :=
  (readArrayHeader b).bind fun sz b1 =>
    if sz ≠ 2 ∧ sz ≠ 3 then .err else
    let recv := { recv with options := none }
    (readString b1).bind fun tag b2 =>
    (readBytes b2).bind fun s b3 =>
      let m := { recv with tag := tag, stream := s }
      if sz = 3 then (readOptionsOrNil p b3).map fun o => { m with options := o }
      else .ok m b3

/-- `EntryList.UnmarshalPacked`: entries one after another until the input is exhausted; on the
first error the entries read so far are kept and the error is returned -/
def unmarshalPackedF : Nat → Bytes → List EntryExt → List EntryExt × Bool
  | 0, _, acc => (acc.reverse, false)
  | f+1, b, acc =>
    if b.isEmpty then (acc.reverse, true)
    else match EntryExt.unmarshal .bytes {} b with
      | .ok e r => unmarshalPackedF f r (e :: acc)
      | _ => (acc.reverse, false)

def unmarshalPacked (b : Bytes) : List EntryExt × Bool := unmarshalPackedF (b.length + 1) b []

end FV
