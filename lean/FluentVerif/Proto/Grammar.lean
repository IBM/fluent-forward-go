import FluentVerif.Proto.RoundTrip
import FluentVerif.Forward.Spec
/-! The objects the encoders write (`T.obj`) satisfy the Forward Protocol v1 grammar of `Forward/Spec.lean`. -/
namespace FV
open Spec

theorem isRecord_map : ∀ (kvs : GoKVs), isRecord (GoVal.toObj (.map kvs)) = true
  | .nil => rfl
  | .cons _ _ r => isRecord_map r

/-- eight shapes (which of the three fields are present), each a closed computation once the option
map is written out; `simp only` does the writing out because `rfl` alone re-evaluates the pair list at
each of its three uses in `isOptionMap` -/
theorem isOptionMap_toObj (o : Options) : isOptionMap o.toObj = true := by
  obtain ⟨size, chunk, compressed⟩ := o
  cases size <;> cases chunk <;> cases compressed <;>
    simp only [Options.toObj, isOptionMap, objsToList, pairs, bne_iff_ne, ne_eq, reduceCtorEq, not_false_eq_true,
      not_true_eq_false, ite_true, ite_false, id] <;> rfl

theorem isOptionOrNil_ptr (opts : Option Options) : isOptionOrNil (optPtrObj opts) = true := by
  cases opts with
  | none => simp [optPtrObj, isOptionOrNil, isNilObj]
  | some o => simp [optPtrObj, isOptionOrNil, isOptionMap_toObj]

theorem isEventTimeObj_enc (t : Instant) : isEventTimeObj (.ext 0 (encodeET t)) = true := by
  simp [isEventTimeObj, encodeET_length]

theorem isMessage_obj (tag ts kvs opts) : isMessage (Message.obj tag ts (.map kvs) opts) = true := by
  simp [Message.obj, olist, isMessage, objsToList, isStr, isInt, isRecord_map, isOptionOrNil_ptr]

theorem isMessageExt_obj (tag ts kvs opts) : isMessageExt (MessageExt.obj tag ts (.map kvs) opts) = true := by
  simp [MessageExt.obj, olist, isMessageExt, objsToList, isStr, isEventTimeObj_enc, isRecord_map, isOptionOrNil_ptr]

/-- all records of an entry list are maps -/
def recordsAreMaps : List (Instant × GoVal) → Prop
  | [] => True
  | (_, r) :: es => (∃ kvs, r = .map kvs) ∧ recordsAreMaps es

theorem entries_all_isEntry : ∀ (es : List (Instant × GoVal)), recordsAreMaps es →
    (objsToList (entriesObjs es)).all isEntry = true
  | [], _ => by simp [entriesObjs, objsToList]
  | (t, r) :: es, h => by
    obtain ⟨⟨kvs, rfl⟩, h2⟩ := h
    simp only [entriesObjs, objsToList, List.all_cons, Bool.and_eq_true]
    refine ⟨?_, entries_all_isEntry es h2⟩
    simp [EntryExt.obj, olist, isEntry, objsToList, isEventTimeObj_enc, isRecord_map]

theorem isForward_obj (tag es opts) (h : recordsAreMaps es) : isForward (Forward.obj tag es opts) = true := by
  cases opts with
  | none => simp [Forward.obj, olist, isForward, objsToList, isStr, entries_all_isEntry es h]
  | some o =>
    simp [Forward.obj, olist, isForward, objsToList, isStr, entries_all_isEntry es h, isOptionOrNil, isOptionMap_toObj]

theorem isPacked_obj (tag stream opts) : isPacked (Packed.obj tag stream opts) = true := by
  simp [Packed.obj, olist, isPacked, objsToList, isStr, isBin, isOptionOrNil_ptr]

end FV
