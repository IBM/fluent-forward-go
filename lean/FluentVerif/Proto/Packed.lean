import FluentVerif.Proto.Encode
/-! Model of the packed / compressed constructors (packed_forward_message.go) and of the recycled
`GzipCompressor`.  gzip itself is abstract: a `Codec` compresses a payload into one complete
member and `gunzipOne` reads one member back. -/
namespace FV

/-- abstract gzip: `member p` is one complete gzip member for payload `p` -/
structure Codec where
  member : Bytes → Bytes
  gunzipOne : Bytes → Option (Bytes × Bytes)
  sound : ∀ p rest, gunzipOne (member p ++ rest) = some (p, rest)

/-- `GzipCompressor`: its buffer and the state of its `gzip.Writer` (`some pending` = a member is
open and `pending` has been written into it; `none` = closed / never used) -/
structure Compressor where
  buffer : Bytes := []
  openMember : Option Bytes := none

/-- `Reset()`: both branches (first use / reuse) leave an empty buffer and a writer at the start of
a new member -/
def Compressor.reset (_ : Compressor) : Compressor := { buffer := [], openMember := some [] }

/-- `Write(bits)`: `GzipWriter.Write` then `GzipWriter.Close` — the member is completed and flushed
into the buffer; writing to a closed writer is an error -/
def Compressor.write (cd : Codec) (c : Compressor) (bits : Bytes) : Option Compressor :=
  match c.openMember with
  | some pending => some { buffer := c.buffer ++ cd.member (pending ++ bits), openMember := none }
  | none => none

/-- `NewPackedForwardMessage`: stream = `MarshalPacked` of the entries (a copy), size option set -/
def newPacked (tag : Bytes) (es : List (Instant × GoVal)) : Option Packed :=
  (marshalPacked es).map fun s => { tag := tag, stream := s, options := some { size := some es.length } }

/-- `NewCompressedPackedForwardMessageFromBytes` with a recycled compressor in any prior state -/
def newCompressedFromBytes (cd : Codec) (pooled : Compressor) (tag payload : Bytes) : Option Packed :=
  (pooled.reset.write cd payload).map fun c =>
    { tag := tag, stream := c.buffer, options := some { compressed := vGzip } }

/-- `NewCompressedPackedForwardMessage` -/
def newCompressed (cd : Codec) (pooled : Compressor) (tag : Bytes) (es : List (Instant × GoVal)) : Option Packed :=
  (marshalPacked es).bind fun s =>
    (newCompressedFromBytes cd pooled tag s).map fun m =>
      { m with options := some { (m.options.getD {}) with size := some es.length } }

end FV
