import FluentVerif.Forward.Spec
import FluentVerif.Proto.RoundTrip
/-! `T.obj` and `T.marshal_parse` (see `Proto/RoundTrip.lean`) for the ack and handshake messages, and the
grammar facts about these objects that are plain evaluations. -/
namespace FV
open Spec

def Ack.obj (a : Ack) : Obj := .map (olist [.str kAck, .str a.ack])

theorem Ack.marshal_parse (a : Ack) (h : lenOK a.ack) (x : Bytes) : parse (a.marshal ++ x) = some (a.obj, x) := by
  simp only [Ack.marshal, List.cons_append, List.nil_append, List.append_assoc]
  exact parse_map_of_seq (header_81 _)
    (parseSeq_cons (parse_appendString kAck _ (by decide)) (parseSeq_cons (parse_appendString a.ack _ h) rfl))

theorem isAck_obj (a : Ack) : isAck a.obj = true := rfl

structure HeloOpts.WF (o : HeloOpts) : Prop where
  nonce : lenOK o.nonce
  auth : lenOK o.auth

def HeloOpts.obj (o : HeloOpts) : Obj :=
  .map (olist [.str kNonce, .bin o.nonce, .str kAuth, .bin o.auth, .str kKeepalive, .bool o.keepalive])

theorem HeloOpts.marshal_parse (o : HeloOpts) (h : o.WF) (x : Bytes) : parse (o.marshal ++ x) = some (o.obj, x) := by
  simp only [HeloOpts.marshal, List.cons_append, List.nil_append, List.append_assoc]
  exact parse_map_of_seq (header_83 _)
    (parseSeq_cons (parse_appendString kNonce _ (by decide)) (parseSeq_cons (parse_appendBytes o.nonce _ h.nonce)
    (parseSeq_cons (parse_appendString kAuth _ (by decide)) (parseSeq_cons (parse_appendBytes o.auth _ h.auth)
    (parseSeq_cons (parse_appendString kKeepalive _ (by decide)) (parseSeq_cons (parse_appendBool o.keepalive x) rfl))))))

def heloOptsPtrWF : Option HeloOpts → Prop
  | none => True
  | some o => o.WF

def Helo.obj (hl : Helo) : Obj :=
  .arr (olist [.str hl.mtype, (match hl.options with | none => Obj.nil | some o => o.obj)])

theorem Helo.marshal_parse (hl : Helo) (h1 : lenOK hl.mtype) (h2 : heloOptsPtrWF hl.options) (x : Bytes) :
    parse (hl.marshal ++ x) = some (hl.obj, x) := by
  obtain ⟨mt, opts⟩ := hl
  simp only [Helo.marshal, Helo.obj, List.cons_append, List.nil_append, List.append_assoc]
  refine parse_arr_of_seq (header_92 _) (parseSeq_cons (parse_appendString mt _ h1) (parseSeq_cons ?_ rfl))
  cases opts with
  | none => exact parse_appendNil x
  | some o => exact HeloOpts.marshal_parse o h2 x

theorem isHelo_obj (o : HeloOpts) :
    isHelo (Helo.obj { mtype := [0x48, 0x45, 0x4c, 0x4f], options := some o }) = true := rfl

structure Ping.WF (q : Ping) : Prop where
  mtype : lenOK q.mtype
  hostname : lenOK q.hostname
  salt : lenOK q.salt
  digest : lenOK q.digest
  username : lenOK q.username
  password : lenOK q.password

def Ping.obj (q : Ping) : Obj :=
  .arr (olist [.str q.mtype, .str q.hostname, .bin q.salt, .str q.digest, .str q.username, .str q.password])

theorem Ping.marshal_parse (q : Ping) (h : q.WF) (x : Bytes) : parse (q.marshal ++ x) = some (q.obj, x) := by
  simp only [Ping.marshal, List.cons_append, List.nil_append, List.append_assoc]
  exact parse_arr_of_seq (header_96 _)
    (parseSeq_cons (parse_appendString _ _ h.mtype) (parseSeq_cons (parse_appendString _ _ h.hostname)
    (parseSeq_cons (parse_appendBytes _ _ h.salt) (parseSeq_cons (parse_appendString _ _ h.digest)
    (parseSeq_cons (parse_appendString _ _ h.username) (parseSeq_cons (parse_appendString _ x h.password) rfl))))))

structure Pong.WF (q : Pong) : Prop where
  mtype : lenOK q.mtype
  reason : lenOK q.reason
  hostname : lenOK q.hostname
  digest : lenOK q.digest

def Pong.obj (q : Pong) : Obj :=
  .arr (olist [.str q.mtype, .bool q.authResult, .str q.reason, .str q.hostname, .str q.digest])

theorem Pong.marshal_parse (q : Pong) (h : q.WF) (x : Bytes) : parse (q.marshal ++ x) = some (q.obj, x) := by
  simp only [Pong.marshal, List.cons_append, List.nil_append, List.append_assoc]
  exact parse_arr_of_seq (header_95 _)
    (parseSeq_cons (parse_appendString _ _ h.mtype) (parseSeq_cons (parse_appendBool _ _)
    (parseSeq_cons (parse_appendString _ _ h.reason) (parseSeq_cons (parse_appendString _ _ h.hostname)
    (parseSeq_cons (parse_appendString _ x h.digest) rfl)))))

theorem isPing_obj (q : Ping) (h : q.mtype = [0x50, 0x49, 0x4e, 0x47]) : isPing q.obj = true := by
  rw [Ping.obj, h]; rfl

theorem isPong_obj (q : Pong) (h : q.mtype = [0x50, 0x4f, 0x4e, 0x47]) : isPong q.obj = true := by
  rw [Pong.obj, h]; rfl

end FV
