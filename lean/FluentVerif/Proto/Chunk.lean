import FluentVerif.Msgp.Read
import FluentVerif.Proto.Types
/-! Model of `GetChunk` (fluent/protocol/chunk.go): the positional walker that looks up the
`chunk` option without decoding the message.  It runs on a `*msgp.Reader` over the given bytes. -/
namespace FV

/-- `NextType ∈ {ExtensionType, IntType, UintType}` (stream `NextType` reports msgp's own
extension types 3/4/5 as complex/time, which the walker does not treat as a timestamp) -/
def isTimestampType (b : Bytes) : Bool :=
  match header b with
  | some (.scalar (.int _), _) => true
  | some (.ext _, t :: _) => t != 3 && t != 4 && t != 5
  | _ => false

/-- the key loop: `ReadMapKeyPtr`; on `chunk` the value is read with `ReadMapKey` (str or bin) -/
def getChunkKeys : Nat → Bytes → Res Bytes
  | 0, _ => .err
  | n+1, b =>
    (readMapKey .stream b).bind fun k b1 =>
      if k = kChunk then readMapKey .bytes b1
      else (skipP .stream b1).bind fun _ b2 => getChunkKeys n b2

/-- `GetChunk` -/
def getChunk (b : Bytes) : Res Bytes :=
  (readArrayHeader b).bind fun sz b1 =>
    if sz = 2 then .err else
    (skipP .stream b1).bind fun _ b2 =>
    (if isTimestampType b2 then (if sz = 3 then .err else skipP .stream b2) else .ok () b2).bind fun _ b3 =>
    (skipP .stream b3).bind fun _ b4 =>
    (readMapHeader b4).bind fun n b5 => getChunkKeys n b5

end FV
