import FluentVerif.Proto.EventTime
/-! `encodeET` / `decodeET` on the domain of the format (32-bit seconds, nanoseconds below 10⁹) -/
namespace FV

theorem encodeET_length (t : Instant) : (encodeET t).length = 8 := by simp [encodeET]

theorem decodeET_of_length {d : Bytes} (hd : d.length = 8) : ∃ ts, decodeET d = some ts :=
  ⟨_, if_neg (· hd)⟩

/-- the instant a decoded EventTime denotes (zone information is not carried) -/
def Instant.norm (t : Instant) : Instant := { sec := t.sec, nsec := t.nsec }

/-- on the domain the two 32-bit fields are the instant's own seconds and nanoseconds -/
theorem encodeET_eq (t : Instant) (h : t.InDomain) : encodeET t = be 4 t.sec.toNat ++ be 4 t.nsec := by
  obtain ⟨h0, h1, h2⟩ := h
  rw [encodeET, Int.emod_eq_of_lt h0 h1, Nat.mod_eq_of_lt (by omega)]

theorem beVal_encodeET (t : Instant) (h : t.InDomain) : beVal (encodeET t) = t.sec.toNat * 4294967296 + t.nsec := by
  have ⟨h0, h1, h2⟩ := h
  rw [encodeET_eq t h, beVal_append, beVal_be 4 _ (by omega : t.sec.toNat < 256 ^ 4), beVal_be 4 _ (by omega : t.nsec < 256 ^ 4),
    be_length]

theorem decodeET_encodeET (t : Instant) (h : t.InDomain) : decodeET (encodeET t) = some t.norm := by
  have ⟨h0, h1, h2⟩ := h
  rw [decodeET, if_neg (· (encodeET_length t)), encodeET_eq t h, List.take_left' (be_length ..), List.drop_left' (be_length ..),
    beVal_be 4 _ (by omega : t.sec.toNat < 256 ^ 4), beVal_be 4 _ (by omega : t.nsec < 256 ^ 4)]
  show some ({ sec := (t.sec.toNat : Int) + (t.nsec / 1000000000 : Nat), nsec := t.nsec % 1000000000 } : Instant) = _
  rw [Nat.div_eq_of_lt h2, Nat.mod_eq_of_lt h2, Int.toNat_of_nonneg h0, Int.natCast_zero, Int.add_zero]; rfl

end FV
