import FluentVerif.Msgp.EncodeSound
import FluentVerif.Proto.EncodeLemmas
import FluentVerif.Proto.EventTimeLemmas
/-! `T.obj …`: the object a repository encoder writes.  `T.marshal_parse`: the specification parser finds
exactly that object in the encoder's output, whatever follows it; the proof is the encoder's body read
off element by element (`parseSeq_cons`). -/
namespace FV

def lenOK (s : Bytes) : Prop := s.length < 4294967296

theorem header_92 (r : Bytes) : header (0x92 :: r) = some (.arr 2, r) := header_fixarr 2 (by omega) r
theorem header_93 (r : Bytes) : header (0x93 :: r) = some (.arr 3, r) := header_fixarr 3 (by omega) r
theorem header_94 (r : Bytes) : header (0x94 :: r) = some (.arr 4, r) := header_fixarr 4 (by omega) r
theorem header_95 (r : Bytes) : header (0x95 :: r) = some (.arr 5, r) := header_fixarr 5 (by omega) r
theorem header_96 (r : Bytes) : header (0x96 :: r) = some (.arr 6, r) := header_fixarr 6 (by omega) r
theorem header_81 (r : Bytes) : header (0x81 :: r) = some (.map 1, r) := header_fixmap 1 (by omega) r
theorem header_83 (r : Bytes) : header (0x83 :: r) = some (.map 3, r) := header_fixmap 3 (by omega) r

def olist : List Obj → Objs
  | [] => .nil
  | x :: xs => .cons x (olist xs)

def Message.obj (tag : Bytes) (ts : Int) (rec : GoVal) (opts : Option Options) : Obj :=
  .arr (olist [.str tag, .int ts, rec.toObj, optPtrObj opts])

theorem Message.marshal_parse {tag ts rec opts e} (htag : lenOK tag) (hts : inInt64 ts) (hrec : rec.WF)
    (hopts : optPtrWF opts) (he : Message.marshal tag ts rec opts = some e) (x : Bytes) :
    parse (e ++ x) = some (Message.obj tag ts rec opts, x) := by
  simp only [Message.marshal, Option.map_eq_some_iff] at he
  obtain ⟨rb, hrb, rfl⟩ := he
  simp only [List.cons_append, List.nil_append, List.append_assoc]
  exact parse_arr_of_seq (header_94 _)
    (parseSeq_cons (parse_appendString tag _ htag) (parseSeq_cons (parse_appendInt64 ts hts _)
    (parseSeq_cons (GoVal.encode_sound rec rb hrec hrb _) (parseSeq_cons (marshalOptPtr_parse opts hopts x) rfl))))

def MessageExt.obj (tag : Bytes) (ts : Instant) (rec : GoVal) (opts : Option Options) : Obj :=
  .arr (olist [.str tag, .ext 0 (encodeET ts), rec.toObj, optPtrObj opts])

theorem MessageExt.marshal_parse {tag ts rec opts e} (htag : lenOK tag) (hrec : rec.WF)
    (hopts : optPtrWF opts) (he : MessageExt.marshal tag ts rec opts = some e) (x : Bytes) :
    parse (e ++ x) = some (MessageExt.obj tag ts rec opts, x) := by
  simp only [MessageExt.marshal, Option.map_eq_some_iff] at he
  obtain ⟨rb, hrb, rfl⟩ := he
  simp only [List.cons_append, List.nil_append, List.append_assoc]
  exact parse_arr_of_seq (header_94 _)
    (parseSeq_cons (parse_appendString tag _ htag) (parseSeq_cons (parse_appendEventTime ts _)
    (parseSeq_cons (GoVal.encode_sound rec rb hrec hrb _) (parseSeq_cons (marshalOptPtr_parse opts hopts x) rfl))))

def EntryExt.obj (ts : Instant) (rec : GoVal) : Obj := .arr (olist [.ext 0 (encodeET ts), rec.toObj])

theorem EntryExt.marshal_parse {ts rec e} (hrec : rec.WF) (he : EntryExt.marshal ts rec = some e) (x : Bytes) :
    parse (e ++ x) = some (EntryExt.obj ts rec, x) := by
  simp only [EntryExt.marshal, Option.map_eq_some_iff] at he
  obtain ⟨rb, hrb, rfl⟩ := he
  simp only [List.cons_append, List.nil_append, List.append_assoc]
  exact parse_arr_of_seq (header_92 _)
    (parseSeq_cons (parse_appendEventTime ts _) (parseSeq_cons (GoVal.encode_sound rec rb hrec hrb x) rfl))

def Entry.obj (ts : Int) (rec : GoVal) : Obj := .arr (olist [.int ts, rec.toObj])

theorem Entry.marshal_parse {ts rec e} (hts : inInt64 ts) (hrec : rec.WF) (he : Entry.marshal ts rec = some e) (x : Bytes) :
    parse (e ++ x) = some (Entry.obj ts rec, x) := by
  simp only [Entry.marshal, Option.map_eq_some_iff] at he
  obtain ⟨rb, hrb, rfl⟩ := he
  simp only [List.cons_append, List.nil_append, List.append_assoc]
  exact parse_arr_of_seq (header_92 _)
    (parseSeq_cons (parse_appendInt64 ts hts _) (parseSeq_cons (GoVal.encode_sound rec rb hrec hrb x) rfl))

/-- well-formed entry list: instants in the 32-bit-second domain, representable records -/
def entriesWF : List (Instant × GoVal) → Prop
  | [] => True
  | (t, r) :: es => t.InDomain ∧ r.WF ∧ entriesWF es

def entriesObjs : List (Instant × GoVal) → Objs
  | [] => .nil
  | (t, r) :: es => .cons (EntryExt.obj t r) (entriesObjs es)

def entriesNorm (es : List (Instant × GoVal)) : List EntryExt :=
  es.map fun (t, r) => { ts := t.norm, record := r.toObj }

theorem marshalEntries_cons {t r es eb} (h : marshalEntries ((t, r) :: es) = some eb) :
    ∃ a b, EntryExt.marshal t r = some a ∧ marshalEntries es = some b ∧ eb = a ++ b := by
  unfold marshalEntries at h
  split at h
  · next a b ha hb => cases h; exact ⟨a, b, ha, hb, rfl⟩
  · cases h

theorem marshalEntries_parse : ∀ (es : List (Instant × GoVal)) (eb : Bytes), entriesWF es →
    marshalEntries es = some eb → ∀ x, parseSeq es.length (eb ++ x) = some (entriesObjs es, x)
  | [], _, _, he, x => by cases he; rfl
  | (t, r) :: es, _, hw, he, x => by
    obtain ⟨a, b, ha, hb, rfl⟩ := marshalEntries_cons he
    rw [List.append_assoc]
    exact parseSeq_cons (EntryExt.marshal_parse hw.2.1 ha _) (marshalEntries_parse es b hw.2.2 hb x)

def Forward.obj (tag : Bytes) (es : List (Instant × GoVal)) (opts : Option Options) : Obj :=
  match opts with
  | none => .arr (olist [.str tag, .arr (entriesObjs es)])
  | some o => .arr (olist [.str tag, .arr (entriesObjs es), o.toObj])

theorem Forward.marshal_parse {tag es opts e} (htag : lenOK tag) (hn : es.length < 4294967296) (hes : entriesWF es)
    (hopts : optPtrWF opts) (he : Forward.marshal tag es opts = some e) (x : Bytes) :
    parse (e ++ x) = some (Forward.obj tag es opts, x) := by
  simp only [Forward.marshal, EntryList.marshal, Option.map_eq_some_iff] at he
  obtain ⟨eb', ⟨eb, heb, rfl⟩, rfl⟩ := he
  have hl := fun y => parse_arr_of_seq (header_appendArrayHeader _ _ hn) (marshalEntries_parse es eb hes heb y)
  cases opts with
  | none =>
    simp only [List.cons_append, List.nil_append, List.append_assoc, Forward.obj]
    exact parse_arr_of_seq (header_92 _) (parseSeq_cons (parse_appendString tag _ htag) (parseSeq_cons (hl x) rfl))
  | some o =>
    simp only [List.cons_append, List.nil_append, List.append_assoc, Forward.obj]
    exact parse_arr_of_seq (header_93 _) (parseSeq_cons (parse_appendString tag _ htag)
      (parseSeq_cons (hl _) (parseSeq_cons (Options.marshal_parse o hopts x) rfl)))

def Packed.obj (tag stream : Bytes) (opts : Option Options) : Obj :=
  .arr (olist [.str tag, .bin stream, optPtrObj opts])

theorem Packed.marshal_parse {tag stream opts} (htag : lenOK tag) (hs : lenOK stream) (hopts : optPtrWF opts) (x : Bytes) :
    parse (Packed.marshal tag stream opts ++ x) = some (Packed.obj tag stream opts, x) := by
  simp only [Packed.marshal, List.cons_append, List.nil_append, List.append_assoc]
  exact parse_arr_of_seq (header_93 _)
    (parseSeq_cons (parse_appendString tag _ htag) (parseSeq_cons (parse_appendBytes stream _ hs)
    (parseSeq_cons (marshalOptPtr_parse opts hopts x) rfl)))

end FV
