import FluentVerif.Msgpack.Spec
import FluentVerif.Proto.EventTime
/-! The repository's protocol types (fluent/protocol/*.go) as plain structures. Strings are byte
strings (Go strings are arbitrary bytes). -/
namespace FV

def kSize : Bytes := [0x73, 0x69, 0x7a, 0x65]
def kChunk : Bytes := [0x63, 0x68, 0x75, 0x6e, 0x6b]
def kCompressed : Bytes := [0x63, 0x6f, 0x6d, 0x70, 0x72, 0x65, 0x73, 0x73, 0x65, 0x64]
def kAck : Bytes := [0x61, 0x63, 0x6b]
def kNonce : Bytes := [0x6e, 0x6f, 0x6e, 0x63, 0x65]
def kAuth : Bytes := [0x61, 0x75, 0x74, 0x68]
def kKeepalive : Bytes := [0x6b, 0x65, 0x65, 0x70, 0x61, 0x6c, 0x69, 0x76, 0x65]
def vGzip : Bytes := [0x67, 0x7a, 0x69, 0x70]

/-- `MessageOptions` -/
structure Options where
  size : Option Int := none
  chunk : Bytes := []
  compressed : Bytes := []
deriving DecidableEq

/-- `Message` -/
structure Message where
  tag : Bytes := []
  ts : Int := 0
  record : Obj := .nil
  options : Option Options := none

/-- `MessageExt` -/
structure MessageExt where
  tag : Bytes := []
  ts : Instant := { sec := 0, nsec := 0 }
  record : Obj := .nil
  options : Option Options := none

/-- `EntryExt` -/
structure EntryExt where
  ts : Instant := { sec := 0, nsec := 0 }
  record : Obj := .nil

/-- `Entry` -/
structure Entry where
  ts : Int := 0
  record : Obj := .nil

/-- `ForwardMessage` -/
structure Forward where
  tag : Bytes := []
  entries : List EntryExt := []
  options : Option Options := none

/-- `PackedForwardMessage` -/
structure Packed where
  tag : Bytes := []
  stream : Bytes := []
  options : Option Options := none

/-- `AckMessage` -/
structure Ack where
  ack : Bytes := []
deriving DecidableEq

/-- `HeloOpts` -/
structure HeloOpts where
  nonce : Bytes := []
  auth : Bytes := []
  keepalive : Bool := false
deriving DecidableEq

/-- `Helo` -/
structure Helo where
  mtype : Bytes := []
  options : Option HeloOpts := none
deriving DecidableEq

/-- `Ping` -/
structure Ping where
  mtype : Bytes := []
  hostname : Bytes := []
  salt : Bytes := []
  digest : Bytes := []
  username : Bytes := []
  password : Bytes := []
deriving DecidableEq

/-- `Pong` -/
structure Pong where
  mtype : Bytes := []
  authResult : Bool := false
  reason : Bytes := []
  hostname : Bytes := []
  digest : Bytes := []
deriving DecidableEq

end FV
