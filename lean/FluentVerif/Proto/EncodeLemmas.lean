import FluentVerif.Proto.Encode
import FluentVerif.Proto.Decode
import FluentVerif.Msgp.AppendSound
/-! The option map: what the specification parser and the repository's decoder read back from
`Options.marshal`, which writes each of its three fields only if it is not empty. -/
namespace FV

structure Options.WF (o : Options) : Prop where
  size : ∀ i, o.size = some i → inInt64 i
  chunk : o.chunk.length < 4294967296
  compressed : o.compressed.length < 4294967296

/-- the option map as the specification sees it: only the non-empty fields, in the order written -/
def Options.toObj (o : Options) : Obj :=
  .map (
    (match o.size with | some i => fun r => Objs.cons (.str kSize) (.cons (.int i) r) | none => id) <|
    (if o.chunk != [] then fun r => Objs.cons (.str kChunk) (.cons (.str o.chunk) r) else id) <|
    (if o.compressed != [] then fun r => Objs.cons (.str kCompressed) (.cons (.str o.compressed) r) else id) <|
    .nil)

def optPtrObj : Option Options → Obj
  | none => .nil
  | some o => o.toObj

theorem b2n_le (b : Bool) : b2n b ≤ 1 := by cases b <;> decide

/-- a key-value pair that is written only if `c`, in front of a run of values -/
theorem parseSeq_optField {c : Bool} {ke ve rest x : Bytes} {k v : Obj} {m : Nat} {os : Objs}
    (hk : ∀ y, parse (ke ++ y) = some (k, y)) (hv : ∀ y, parse (ve ++ y) = some (v, y))
    (h : parseSeq m rest = some (os, x)) :
    parseSeq (m + 2 * b2n c) ((if c then ke ++ ve else []) ++ rest)
      = some ((if c then fun r => Objs.cons k (.cons v r) else id) os, x) := by
  cases c
  · exact h
  · rw [if_pos rfl, List.append_assoc]; exact parseSeq_cons (hk _) (parseSeq_cons (hv _) h)

theorem Options.marshal_parse (o : Options) (hw : o.WF) (x : Bytes) :
    parse (o.marshal ++ x) = some (o.toObj, x) := by
  obtain ⟨size, chunk, compressed⟩ := o
  -- the two `omitempty` strings, whichever of them are there
  have h := parseSeq_optField (c := chunk != []) (parse_appendString kChunk · (by decide)) (parse_appendString chunk · hw.chunk)
    (parseSeq_optField (c := compressed != []) (parse_appendString kCompressed · (by decide))
      (parse_appendString compressed · hw.compressed) (rfl : parseSeq 0 x = some (.nil, x)))
  have b1 := b2n_le size.isSome; have b2 := b2n_le (chunk != []); have b3 := b2n_le (compressed != [])
  simp only [Options.marshal, Options.toObj, List.append_assoc]
  refine parse_map_of_seq (header_fixmap _ (by omega) _) ?_
  -- the count of the map header, in the order in which the fields are read off
  rw [show 2 * (b2n size.isSome + b2n (chunk != []) + b2n (compressed != []))
      = 0 + 2 * b2n (compressed != []) + 2 * b2n (chunk != []) + 2 * b2n size.isSome by omega]
  cases size with
  | none => exact h
  | some i =>
    rw [List.append_assoc]
    exact parseSeq_cons (parse_appendString kSize _ (by decide)) (parseSeq_cons (parse_appendInt64 i (hw.size i rfl) _) h)

theorem isNil_appendInt64 (i : Int) (h : inInt64 i) (r : Bytes) : isNil (appendInt64 i ++ r) = false :=
  isNil_false_of_parse (parse_appendInt64 i h r) nofun

theorem Options.roundtrip (p : Path) (o : Options) (hw : o.WF) (x : Bytes) :
    Options.unmarshal p {} (o.marshal ++ x) = .ok o x := by
  obtain ⟨size, chunk, compressed⟩ := o
  have hs := hw.size; have hc := hw.chunk; have hz := hw.compressed
  simp only at hs hc hz
  -- the three keys: short, not empty, different
  have hk : (kSize.length < 4294967296 ∧ kChunk.length < 4294967296 ∧ kCompressed.length < 4294967296) ∧
      (kSize ≠ [] ∧ kChunk ≠ [] ∧ kCompressed ≠ []) ∧ ¬ kChunk = kSize ∧ ¬ kCompressed = kSize ∧ ¬ kCompressed = kChunk := by
    decide
  unfold Options.unmarshal Options.marshal
  simp only [List.cons_append, List.nil_append, List.append_assoc]
  have b1 := b2n_le size.isSome; have b2 := b2n_le (chunk != []); have b3 := b2n_le (compressed != [])
  rw [readMapHeader_iff.2 (header_fixmap _ (by omega) _)]
  -- eight shapes (which of the three fields are written); on each the loop is run on the bytes, field by field
  cases size with
  | none =>
    by_cases e2 : chunk = [] <;> by_cases e3 : compressed = [] <;>
      simp [e2, e3, b2n, readFields, readMapKey_appendString, Options.handlers, Res.bind, Res.map,
        readString_appendString, hc, hz, hk]
  | some i =>
    have hi := hs i rfl
    by_cases e2 : chunk = [] <;> by_cases e3 : compressed = [] <;>
      simp [e2, e3, b2n, readFields, readMapKey_appendString, Options.handlers, Options.sizeField, Res.bind, Res.map,
        readString_appendString, readInt64_appendInt64, isNil_appendInt64, hc, hz, hi, hk]

def optPtrWF : Option Options → Prop
  | none => True
  | some o => o.WF

theorem marshalOptPtr_parse (opts : Option Options) (hw : optPtrWF opts) (x : Bytes) :
    parse (marshalOptPtr opts ++ x) = some (optPtrObj opts, x) := by
  cases opts with
  | none => exact parse_appendNil x
  | some o => exact Options.marshal_parse o hw x

theorem readOptionsOrNil_marshal (p : Path) (opts : Option Options) (hw : optPtrWF opts) (x : Bytes) :
    readOptionsOrNil p (marshalOptPtr opts ++ x) = .ok opts x := by
  cases opts with
  | none => simp [readOptionsOrNil, marshalOptPtr, appendNil, isNil, readNil, Res.map]
  | some o =>
    simp [readOptionsOrNil, marshalOptPtr, isNil_false_of_parse (Options.marshal_parse o hw x) nofun,
      Options.roundtrip p o hw, Res.map]

end FV
