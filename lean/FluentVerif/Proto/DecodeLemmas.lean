import FluentVerif.Proto.Decode
import FluentVerif.Msgp.Sound
/-! Every decoder of `Proto/Decode.lean` is built from the msgp read primitives with `Res.bind`,
`Res.map`, `if` and two loops.  `x.Leaves R`: no panic, and a success leaves a rest that satisfies `R`.
With `R := Reads1 b` (exactly one msgpack value was consumed) it is C13 and the first clause of C10 at
once, and it is closed under everything the decoders are built with, so the proof for a decoder is the
decoder's own shape written with `cons` / `last` / `arr` / `mapHdr` / `ite`. -/
namespace FV

theorem Reads1.ofParse {b o r} (h : parse b = some (o, r)) : Reads1 b r := ⟨o, h⟩

def Res.Leaves {α} (x : Res α) (R : Bytes → Prop) : Prop :=
  x.NoPanic ∧ ∀ v r, x = .ok v r → R r

namespace Res.Leaves
variable {α β : Type} {Q R : Bytes → Prop}

theorem ok {a : α} {b} (h : R b) : (Res.ok a b).Leaves R :=
  ⟨Res.noPanic_ok a b, fun _ _ e => by cases e; exact h⟩

theorem err : (Res.err : Res α).Leaves R := ⟨Res.noPanic_err, nofun⟩

theorem imp {x : Res α} (hx : x.Leaves Q) (h : ∀ r, Q r → R r) : x.Leaves R :=
  ⟨hx.1, fun v r e => h r (hx.2 v r e)⟩

theorem bind {x : Res α} {f : α → Bytes → Res β} (hx : x.Leaves Q)
    (hf : ∀ a b, x = .ok a b → Q b → (f a b).Leaves R) : (x.bind f).Leaves R := by
  cases x with
  | ok a b => exact hf a b rfl (hx.2 a b rfl)
  | err => exact err
  | panic w => exact absurd rfl (hx.1 w)

theorem map {x : Res α} {f : α → β} (hx : x.Leaves R) : (x.map f).Leaves R := by
  cases x with
  | ok a b => exact ok (hx.2 a b rfl)
  | err => exact err
  | panic w => exact absurd rfl (hx.1 w)

theorem ite {c : Prop} [Decidable c] {x y : Res α} (hx : c → x.Leaves R) (hy : ¬ c → y.Leaves R) :
    (if c then x else y).Leaves R := by
  split
  · exact hx ‹_›
  · exact hy ‹_›

theorem iteFun {c : Prop} [Decidable c] {f g : Bytes → Res α} {b} (hx : c → (f b).Leaves R)
    (hy : ¬ c → (g b).Leaves R) : ((if c then f else g) b).Leaves R :=
  apply_ite (· b) c f g ▸ ite hx hy

theorem cons {x : Res α} {f : α → Bytes → Res β} {b n} (hx : x.Leaves (Reads1 b))
    (hf : ∀ a b1, (f a b1).Leaves (ReadsN n b1)) : (x.bind f).Leaves (ReadsN (n+1) b) :=
  hx.bind fun a b1 _ h1 => (hf a b1).imp fun _ => ReadsN.cons h1

theorem last {x : Res α} {f : α → β} {b} (hx : x.Leaves (Reads1 b)) : (x.map f).Leaves (ReadsN 1 b) :=
  hx.map.imp fun r h => ReadsN.cons h (ReadsN.zero r)

/-- an array header announcing `n` elements, then `n` values: one value -/
theorem arr {f : Nat → Bytes → Res α} {b} (hf : ∀ n b1, (f n b1).Leaves (ReadsN n b1)) :
    ((readArrayHeader b).bind f).Leaves (Reads1 b) :=
  bind (Q := fun _ => True) ⟨readArrayHeader_noPanic b, fun _ _ _ => trivial⟩ fun n b1 e _ =>
    (hf n b1).imp fun _ => Reads1.ofArr (readArrayHeader_iff.1 e)

theorem mapHdr {f : Nat → Bytes → Res α} {b} (hf : ∀ n b1, (f n b1).Leaves (ReadsN (2*n) b1)) :
    ((readMapHeader b).bind f).Leaves (Reads1 b) :=
  bind (Q := fun _ => True) ⟨readMapHeader_noPanic b, fun _ _ _ => trivial⟩ fun n b1 e _ =>
    (hf n b1).imp fun _ => Reads1.ofMap (readMapHeader_iff.1 e)

/-- the arity check of the generated tuple decoders -/
theorem arity {sz k : Nat} {x : Res α} (hx : sz = k → x.Leaves R) :
    (if sz ≠ k then .err else x).Leaves R :=
  .ite (fun _ => .err) fun h => hx (Decidable.of_not_not h)

/-- the arity check of the hand-written decoders: `k` or `k + 1` elements -/
theorem arity2 {sz k : Nat} {x : Res α} (hx : ∀ j, j ≤ 1 → sz = j + k → x.Leaves R) :
    (if sz ≠ k ∧ sz ≠ k + 1 then .err else x).Leaves R :=
  .ite (fun _ => .err) fun _ => hx (sz - k) (by omega) (by omega)

end Res.Leaves

theorem readString_reads {b} : (readString b).Leaves (Reads1 b) :=
  ⟨readString_noPanic b, fun _ _ h => ⟨_, readString_iff.1 h⟩⟩
theorem readBytes_reads {b} : (readBytes b).Leaves (Reads1 b) :=
  ⟨readBytes_noPanic b, fun _ _ h => ⟨_, readBytes_iff.1 h⟩⟩
theorem readInt64_reads {b} : (readInt64 b).Leaves (Reads1 b) :=
  ⟨readInt64_noPanic b, fun _ _ h => ⟨_, (readInt64_iff.1 h).1⟩⟩
theorem readBool_reads {b} : (readBool b).Leaves (Reads1 b) :=
  ⟨readBool_noPanic b, fun _ _ h => ⟨_, readBool_iff.1 h⟩⟩
theorem readNil_reads {b} : (readNil b).Leaves (Reads1 b) :=
  ⟨readNil_noPanic b, fun _ _ h => ⟨_, readNil_iff.1 h⟩⟩
theorem readEventTime_reads {b} : (readEventTime b).Leaves (Reads1 b) :=
  ⟨readEventTime_noPanic b, fun _ _ => readEventTime_sound⟩
theorem readMapKey_reads {p b} : (readMapKey p b).Leaves (Reads1 b) :=
  ⟨readMapKey_noPanic p b, fun _ _ => readMapKey_sound⟩
theorem skipP_reads {p b} : (skipP p b).Leaves (Reads1 b) :=
  ⟨skipP_noPanic p b, fun _ _ => skipP_sound⟩
theorem readIntf_reads {p b} : (readIntf p b).Leaves (Reads1 b) :=
  ⟨readIntf_noPanic p b, fun _ _ => readIntf_sound⟩

/-- one `case` of the generated `switch`: the handler of a known key, `Skip` for any other -/
def fieldOf {σ : Type} (p : Path) (o : Option (σ → Bytes → Res σ)) (s : σ) (b : Bytes) : Res σ :=
  match o with
  | some f => f s b
  | none => (skipP p b).bind fun _ b2 => .ok s b2

theorem fieldOf_ite {σ : Type} (p : Path) (c : Prop) [Decidable c] (f : σ → Bytes → Res σ) (o s) :
    fieldOf p (if c then some f else o) s = if c then f s else fieldOf p o s := by
  split <;> rfl

theorem readFields_succ {σ : Type} (p : Path) (h : Bytes → Option (σ → Bytes → Res σ)) (n s b) :
    readFields p h (n+1) s b =
      (readMapKey p b).bind fun k b1 => (fieldOf p (h k) s b1).bind fun s' b2 => readFields p h n s' b2 := by
  rw [readFields]
  congr; funext k b1
  cases h k with
  | some f => rfl
  | none => simp only [fieldOf]; cases skipP p b1 <;> rfl

theorem readFields_reads {σ : Type} (p : Path) (h : Bytes → Option (σ → Bytes → Res σ))
    (hh : ∀ k s b, (fieldOf p (h k) s b).Leaves (Reads1 b)) :
    ∀ (n : Nat) (s : σ) (b : Bytes), (readFields p h n s b).Leaves (ReadsN (2*n) b)
  | 0, _, b => .ok (ReadsN.zero b)
  | n+1, s, b => readFields_succ p h n s b ▸
    .cons (n := 2*n+1) readMapKey_reads fun k b1 => .cons (hh k s b1) (readFields_reads p h hh n)

theorem skipField_reads {σ : Type} (p : Path) (s : σ) (b) :
    (fieldOf p none s b).Leaves (Reads1 b) :=
  skipP_reads.bind fun _ _ _ h => .ok h

theorem Options.field_reads (p k s b) : (fieldOf p (Options.handlers k) s b).Leaves (Reads1 b) := by
  simp only [Options.handlers, fieldOf_ite]
  exact .iteFun (fun _ => .ite (fun _ => readNil_reads.map) fun _ => readInt64_reads.map) fun _ =>
    .iteFun (fun _ => readString_reads.map) fun _ => .iteFun (fun _ => readString_reads.map) fun _ =>
    skipField_reads p s b

theorem Ack.field_reads (p k s b) : (fieldOf p (Ack.handlers k) s b).Leaves (Reads1 b) := by
  simp only [Ack.handlers, fieldOf_ite]
  exact .iteFun (fun _ => readString_reads.map) fun _ => skipField_reads p s b

theorem HeloOpts.field_reads (p k s b) : (fieldOf p (HeloOpts.handlers k) s b).Leaves (Reads1 b) := by
  simp only [HeloOpts.handlers, fieldOf_ite]
  exact .iteFun (fun _ => readBytes_reads.map) fun _ => .iteFun (fun _ => readBytes_reads.map) fun _ =>
    .iteFun (fun _ => readBool_reads.map) fun _ => skipField_reads p s b

theorem Options.unmarshal_reads {p recv b} : (Options.unmarshal p recv b).Leaves (Reads1 b) :=
  .mapHdr fun n => readFields_reads p _ (Options.field_reads p) n recv
theorem Ack.unmarshal_reads {p recv b} : (Ack.unmarshal p recv b).Leaves (Reads1 b) :=
  .mapHdr fun n => readFields_reads p _ (Ack.field_reads p) n recv
theorem HeloOpts.unmarshal_reads {p recv b} : (HeloOpts.unmarshal p recv b).Leaves (Reads1 b) :=
  .mapHdr fun n => readFields_reads p _ (HeloOpts.field_reads p) n recv

theorem readOptionsOrNil_reads {p b} : (readOptionsOrNil p b).Leaves (Reads1 b) :=
  .ite (fun _ => readNil_reads.map) fun _ => Options.unmarshal_reads.map

theorem Entry.unmarshal_reads {p recv b} : (Entry.unmarshal p recv b).Leaves (Reads1 b) :=
  .arr fun _ _ => .arity fun h => h ▸ .cons readInt64_reads fun _ _ => .last readIntf_reads

theorem EntryExt.unmarshal_reads {p recv b} : (EntryExt.unmarshal p recv b).Leaves (Reads1 b) :=
  .arr fun _ _ => .arity fun h => h ▸ .cons readEventTime_reads fun _ _ => .last readIntf_reads

theorem readEntries_reads {p : Path} : ∀ (n : Nat) (b : Bytes), (readEntries p n b).Leaves (ReadsN n b)
  | 0, b => .ok (ReadsN.zero b)
  | n+1, _ => .cons EntryExt.unmarshal_reads fun _ b1 => (readEntries_reads n b1).map

theorem EntryList.unmarshal_reads {p b} : (EntryList.unmarshal p b).Leaves (Reads1 b) :=
  .arr readEntries_reads

theorem Helo.unmarshal_reads {p recv b} : (Helo.unmarshal p recv b).Leaves (Reads1 b) :=
  .arr fun _ _ => .arity fun h => h ▸ .cons readString_reads fun _ _ =>
    .ite (fun _ => .last readNil_reads) fun _ => .last HeloOpts.unmarshal_reads

theorem Ping.unmarshal_reads {p recv b} : (Ping.unmarshal p recv b).Leaves (Reads1 b) :=
  .arr fun _ _ => .arity fun h => h ▸ .cons readString_reads fun _ _ => .cons readString_reads fun _ _ =>
    .cons readBytes_reads fun _ _ => .cons readString_reads fun _ _ =>
    .cons readString_reads fun _ _ => .last readString_reads

theorem Pong.unmarshal_reads {p recv b} : (Pong.unmarshal p recv b).Leaves (Reads1 b) :=
  .arr fun _ _ => .arity fun h => h ▸ .cons readString_reads fun _ _ => .cons readBool_reads fun _ _ =>
    .cons readString_reads fun _ _ => .cons readString_reads fun _ _ => .last readString_reads

/-- the last element of a hand-written decoder's array: absent (`j = 0`) or the options (`j = 1`).
The model writes its tests with numerals (`sz ≠ 3 ∧ sz ≠ 4`, `if sz = 4`).  They meet `arity2`'s `k + 1`, and
after `sz := j + k` the test `j + k = k + 1` here, only because `3 + 1` and `4` are the same numeral up to
evaluation; a decoder whose tests are not literally `k` and `k + 1` will fail to unify in its `unmarshal_reads`. -/
theorem optTail_reads {α} (p : Path) {j k : Nat} (hj : j ≤ 1) (g : Option Options → α) (m : α) (b : Bytes) :
    (if j + k = k + 1 then (readOptionsOrNil p b).map g else .ok m b).Leaves (ReadsN j b) := by
  obtain rfl | rfl : j = 0 ∨ j = 1 := by omega
  · rw [if_neg (by omega)]; exact .ok (ReadsN.zero b)
  · rw [if_pos (by omega)]; exact .last readOptionsOrNil_reads

theorem Message.unmarshal_reads {p recv b} : (Message.unmarshal p recv b).Leaves (Reads1 b) :=
  .arr fun _ _ => .arity2 fun _ hj h => h ▸
    .cons readString_reads fun _ _ => .cons readInt64_reads fun _ _ =>
    .cons readIntf_reads fun _ => optTail_reads p hj _ _

theorem MessageExt.unmarshal_reads {p recv b} : (MessageExt.unmarshal p recv b).Leaves (Reads1 b) :=
  .arr fun _ _ => .arity2 fun _ hj h => h ▸
    .cons readString_reads fun _ _ => .cons readEventTime_reads fun _ _ =>
    .cons readIntf_reads fun _ => optTail_reads p hj _ _

theorem Forward.unmarshal_reads {p recv b} : (Forward.unmarshal p recv b).Leaves (Reads1 b) :=
  .arr fun _ _ => .arity2 fun _ hj h => h ▸
    .cons readString_reads fun _ _ => .cons EntryList.unmarshal_reads fun _ => optTail_reads p hj _ _

theorem Packed.unmarshal_reads {p recv b} : (Packed.unmarshal p recv b).Leaves (Reads1 b) :=
  .arr fun _ _ => .arity2 fun _ hj h => h ▸
    .cons readString_reads fun _ _ => .cons readBytes_reads fun _ => optTail_reads p hj _ _

end FV
