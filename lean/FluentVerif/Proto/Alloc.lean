import FluentVerif.Msgp.Alloc
import FluentVerif.Proto.DecodeLemmas
/-! # Elements requested by the repository's slice decoders (C10, memory clause)

The count-sized requests of the `UnmarshalMsg` family: msgp's `ReadIntfBytes` for every record
(`Msgp/Alloc.lean`) and `make(EntryList, n)` in the generated `EntryList.UnmarshalMsg` (a fresh receiver;
a receiver with enough capacity is re-sliced instead).  Each function follows its decoder of
`Proto/Decode.lean` and stops where the decoder stops.  The option / ack / handshake decoders make
no count-sized request at all (`Gen.Consts.protocolCountSizedMakes` lists the `make` calls of the package
whose size is not a constant or a `len(…)`; `Tie/Alloc.lean` pins that list). -/
namespace FV

def Entry.alloc (b : Bytes) : Nat :=
  match readArrayHeader b with
  | .ok sz b1 => if sz ≠ 2 then 0 else
    match readInt64 b1 with
    | .ok _ b2 => allocIntf b2
    | _ => 0
  | _ => 0

def EntryExt.alloc (b : Bytes) : Nat :=
  match readArrayHeader b with
  | .ok sz b1 => if sz ≠ 2 then 0 else
    match readEventTime b1 with
    | .ok _ b2 => allocIntf b2
    | _ => 0
  | _ => 0

/-- the element loop of `EntryList.UnmarshalMsg` -/
def readEntriesAlloc : Nat → Bytes → Nat
  | 0, _ => 0
  | n+1, b => EntryExt.alloc b + (match EntryExt.unmarshal .bytes {} b with
      | .ok _ b1 => readEntriesAlloc n b1
      | _ => 0)

/-- `make(EntryList, n)` first, then the elements -/
def EntryList.alloc (b : Bytes) : Nat :=
  match readArrayHeader b with
  | .ok n b1 => n + readEntriesAlloc n b1
  | _ => 0

def Message.alloc (b : Bytes) : Nat :=
  match readArrayHeader b with
  | .ok sz b1 => if sz ≠ 3 ∧ sz ≠ 4 then 0 else
    match readString b1 with
    | .ok _ b2 =>
      match readInt64 b2 with
      | .ok _ b3 => allocIntf b3
      | _ => 0
    | _ => 0
  | _ => 0

def MessageExt.alloc (b : Bytes) : Nat :=
  match readArrayHeader b with
  | .ok sz b1 => if sz ≠ 3 ∧ sz ≠ 4 then 0 else
    match readString b1 with
    | .ok _ b2 =>
      match readEventTime b2 with
      | .ok _ b3 => allocIntf b3
      | _ => 0
    | _ => 0
  | _ => 0

def Forward.alloc (b : Bytes) : Nat :=
  match readArrayHeader b with
  | .ok sz b1 => if sz ≠ 2 ∧ sz ≠ 3 then 0 else
    match readString b1 with
    | .ok _ b2 => EntryList.alloc b2
    | _ => 0
  | _ => 0

/-- `UnmarshalPacked`: the entries are appended one by one (amortised, no declared count), each record
goes through `ReadIntfBytes` -/
def unmarshalPackedAllocF : Nat → Bytes → Nat
  | 0, _ => 0
  | f+1, b =>
    if b.isEmpty then 0
    else EntryExt.alloc b + (match EntryExt.unmarshal .bytes {} b with
      | .ok _ r => unmarshalPackedAllocF f r
      | _ => 0)

def unmarshalPackedAlloc (b : Bytes) : Nat := unmarshalPackedAllocF (b.length + 1) b

/-! ### accepted input ⇒ no more elements requested than bytes consumed

Each proof takes the decoder's success apart step by step (`Res.bind_ok`), which is also what lets the
`match`es of `T.alloc` reduce; every step leaves less input than it found. -/

theorem EntryExt.alloc_le {recv b e r} (h : EntryExt.unmarshal .bytes recv b = .ok e r) :
    EntryExt.alloc b + 1 + r.length ≤ b.length := by
  obtain ⟨sz, b1, h1, h⟩ := Res.bind_ok.1 h
  obtain ⟨hsz, h⟩ := Res.ok_of_ite_err h
  obtain ⟨ts, b2, h2, h⟩ := Res.bind_ok.1 h
  obtain ⟨o, h3, _⟩ := Res.map_ok.1 h
  have := allocIntf_le h3
  have := header_shrinks (readArrayHeader_iff.1 h1)
  have := (readEventTime_sound h2).lt
  simp only [EntryExt.alloc, h1, if_neg hsz, h2]
  omega

theorem Entry.alloc_le {recv b e r} (h : Entry.unmarshal .bytes recv b = .ok e r) :
    Entry.alloc b + 1 + r.length ≤ b.length := by
  obtain ⟨sz, b1, h1, h⟩ := Res.bind_ok.1 h
  obtain ⟨hsz, h⟩ := Res.ok_of_ite_err h
  obtain ⟨ts, b2, h2, h⟩ := Res.bind_ok.1 h
  obtain ⟨o, h3, _⟩ := Res.map_ok.1 h
  have := allocIntf_le h3
  have := header_shrinks (readArrayHeader_iff.1 h1)
  have := parse_shrinks (readInt64_iff.1 h2).1
  simp only [Entry.alloc, h1, if_neg hsz, h2]
  omega

theorem readEntriesAlloc_le : ∀ (n : Nat) (b : Bytes) (es r), readEntries .bytes n b = .ok es r →
    readEntriesAlloc n b + n + r.length ≤ b.length
  | 0, b, es, r, h => by cases h; exact Nat.le_of_eq (Nat.zero_add _)
  | n+1, b, es, r, h => by
    obtain ⟨e, b1, h1, h2⟩ := Res.bind_ok.1 h
    obtain ⟨es', h3, _⟩ := Res.map_ok.1 h2
    have := EntryExt.alloc_le h1
    have := readEntriesAlloc_le n b1 es' r h3
    simp only [readEntriesAlloc, h1]
    omega

theorem EntryList.alloc_le {b es r} (h : EntryList.unmarshal .bytes b = .ok es r) :
    EntryList.alloc b + 1 + r.length ≤ b.length := by
  obtain ⟨n, b1, h1, h⟩ := Res.bind_ok.1 h
  have := readEntriesAlloc_le n b1 es r h
  have := header_shrinks (readArrayHeader_iff.1 h1)
  simp only [EntryList.alloc, h1]
  omega

/-- the last element of a hand-written decoder's array, there or not -/
theorem optTail_le {α} {c : Prop} [Decidable c] {p b} {g : Option Options → α} {m v r}
    (h : (if c then (readOptionsOrNil p b).map g else .ok m b) = .ok v r) : r.length ≤ b.length := by
  by_cases hc : c
  · obtain ⟨o, h, _⟩ := Res.map_ok.1 ((if_pos hc).symm.trans h)
    exact Nat.le_of_lt (readOptionsOrNil_reads.2 _ _ h).lt
  · cases (if_neg hc).symm.trans h; exact Nat.le_refl _

theorem Message.alloc_le {recv b v r} (h : Message.unmarshal .bytes recv b = .ok v r) :
    Message.alloc b + r.length ≤ b.length := by
  obtain ⟨sz, b1, h1, h⟩ := Res.bind_ok.1 h
  obtain ⟨hsz, h⟩ := Res.ok_of_ite_err h
  obtain ⟨tag, b2, h2, h⟩ := Res.bind_ok.1 h
  obtain ⟨ts, b3, h3, h⟩ := Res.bind_ok.1 h
  obtain ⟨rec, b4, h4, h⟩ := Res.bind_ok.1 h
  have := optTail_le h
  have := allocIntf_le h4
  have := header_shrinks (readArrayHeader_iff.1 h1)
  have := parse_shrinks (readString_iff.1 h2)
  have := parse_shrinks (readInt64_iff.1 h3).1
  simp only [Message.alloc, h1, if_neg hsz, h2, h3]
  omega

theorem MessageExt.alloc_le {recv b v r} (h : MessageExt.unmarshal .bytes recv b = .ok v r) :
    MessageExt.alloc b + r.length ≤ b.length := by
  obtain ⟨sz, b1, h1, h⟩ := Res.bind_ok.1 h
  obtain ⟨hsz, h⟩ := Res.ok_of_ite_err h
  obtain ⟨tag, b2, h2, h⟩ := Res.bind_ok.1 h
  obtain ⟨ts, b3, h3, h⟩ := Res.bind_ok.1 h
  obtain ⟨rec, b4, h4, h⟩ := Res.bind_ok.1 h
  have := optTail_le h
  have := allocIntf_le h4
  have := header_shrinks (readArrayHeader_iff.1 h1)
  have := parse_shrinks (readString_iff.1 h2)
  have := (readEventTime_sound h3).lt
  simp only [MessageExt.alloc, h1, if_neg hsz, h2, h3]
  omega

theorem Forward.alloc_le {recv b v r} (h : Forward.unmarshal .bytes recv b = .ok v r) :
    Forward.alloc b + r.length ≤ b.length := by
  obtain ⟨sz, b1, h1, h⟩ := Res.bind_ok.1 h
  obtain ⟨hsz, h⟩ := Res.ok_of_ite_err h
  obtain ⟨tag, b2, h2, h⟩ := Res.bind_ok.1 h
  obtain ⟨es, b3, h3, h⟩ := Res.bind_ok.1 h
  have := optTail_le h
  have := EntryList.alloc_le h3
  have := header_shrinks (readArrayHeader_iff.1 h1)
  have := parse_shrinks (readString_iff.1 h2)
  simp only [Forward.alloc, h1, if_neg hsz, h2]
  omega

/-- `UnmarshalPacked` that reads the whole stream (no error) requested no more elements than the stream has bytes -/
theorem unmarshalPackedAllocF_le : ∀ (f : Nat) (b : Bytes) (acc : List EntryExt) (es),
    unmarshalPackedF f b acc = (es, true) → unmarshalPackedAllocF f b ≤ b.length
  | 0, _, _, _, h => by simp [unmarshalPackedF] at h
  | f+1, b, acc, es, h => by
    unfold unmarshalPackedF at h
    unfold unmarshalPackedAllocF
    split at h
    · next he => simp [he]
    · next he =>
      simp only [he]
      split at h
      · next e r h1 =>
        simp only [h1]
        have := EntryExt.alloc_le h1
        have := unmarshalPackedAllocF_le f r _ es h
        simp; omega
      · simp at h

end FV
