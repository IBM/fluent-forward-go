import FluentVerif.Msgp.Complete
import FluentVerif.Msgp.Ext32
import FluentVerif.Proto.DecodeLemmas
import FluentVerif.Proto.EventTimeLemmas
/-! Completeness of the repository's decoders with respect to the *specification parser*: whatever
legal msgpack encoding another implementation chooses for a message of a Forward mode (any
integer width for the time and for `size`, any string / array / map header class, any ext format
for the EventTime, options in any order, unknown option keys with values of any shape, repeated
keys), the decoder model returns the value the specification parser finds — on both paths, into
any receiver, leaving exactly the rest the parser leaves.

`Accepts c rd o v`: the reader `rd` returns `v` on every encoding of the object `o`.  The decoders
are built from readers with `bind`, so the statement about a tuple is assembled from the statements
about its elements (`AcceptsSeq.cons`), the same way for every type.  `c` is the circumstance in
which a skipped value must be free of ext32 tokens: `p = .stream` where the decoder may skip,
`False` where it never does.  The elements of a tuple are a `Run c` (`Msgp/Ext32.lean`): each comes
with its parse and, if `c`, with its freedom from ext32 tokens. -/
namespace FV

def Accepts {α} (c : Prop) (rd : Bytes → Res α) (o : Obj) (v : α) : Prop :=
  ∀ ⦃b r⦄, parse b = some (o, r) → (c → hasExt32 b = false) → rd b = .ok v r

/-- the same for a run of values read one after another -/
def AcceptsSeq {α} (c : Prop) (k : Bytes → Res α) (os : Objs) (v : α) : Prop :=
  ∀ ⦃n b r⦄, Run c n b os r → k b = .ok v r

namespace Accepts
variable {α β : Type} {c : Prop}

/-- `h hp hx` with the parse first: `hp` fixes `o` by unification before the rule term given for `h` is elaborated, and its side
conditions (the arity test is about `os.length`) only match once `o` is concrete -/
theorem run {b r o} (hp : parse b = some (o, r)) (hx : c → hasExt32 b = false) {rd : Bytes → Res α} {v}
    (h : Accepts c rd o v) : rd b = .ok v r := h hp hx

theorem of {rd : Bytes → Res α} {o v} (h : ∀ {b r}, parse b = some (o, r) → rd b = .ok v r) : Accepts c rd o v :=
  fun _ _ hp _ => h hp

theorem map {rd : Bytes → Res α} {o a} (h : Accepts c rd o a) (g : α → β) :
    Accepts c (fun b => (rd b).map g) o (g a) :=
  fun _ _ hp hx => by simp only [h hp hx, Res.map]

theorem ite {cond : Prop} [Decidable cond] {x y : Bytes → Res α} {o v w}
    (hp : cond → Accepts c x o v) (hn : ¬ cond → Accepts c y o w) :
    Accepts c (if cond then x else y) o (if cond then v else w) := by
  by_cases h : cond
  · rw [if_pos h, if_pos h]; exact hp h
  · rw [if_neg h, if_neg h]; exact hn h

/-- `if IsNil { ReadNil } else { … }`, on a nil -/
theorem nil {x : Bytes → Res β} (g : Unit → β) :
    Accepts c (fun b => if isNil b then (readNil b).map g else x b) .nil (g ()) :=
  fun _ _ hp _ => by simp only [isNil_iff.2 ⟨_, hp⟩, if_true, readNil_iff.2 hp, Res.map]

/-- … and on anything else -/
theorem notNil {x rd : Bytes → Res β} {o v} (h : Accepts c rd o v) (ho : o ≠ .nil) :
    Accepts c (fun b => if isNil b then x b else rd b) o v :=
  fun _ _ hp hx => by simp only [isNil_false_of_parse hp ho, Bool.false_eq_true, if_false, h hp hx]

theorem arr {f : Nat → Bytes → Res α} {os v} (h : AcceptsSeq c (f os.length) os v) :
    Accepts c (fun b => (readArrayHeader b).bind f) (.arr os) v := fun b _ hp hx => by
  obtain ⟨n, r0, hh, w⟩ := Run.of_arr hp hx
  obtain rfl := w.length
  simp only [readArrayHeader_iff.2 hh, Res.bind]
  exact h w

theorem mapHdr {f : Nat → Bytes → Res α} {kvs v} (h : ∀ ⦃n b r⦄, Run c (2*n) b kvs r → f n b = .ok v r) :
    Accepts c (fun b => (readMapHeader b).bind f) (.map kvs) v := fun b _ hp hx => by
  obtain ⟨n, r0, hh, w⟩ := Run.of_map hp hx
  simp only [readMapHeader_iff.2 hh, Res.bind]
  exact h w

end Accepts

namespace AcceptsSeq
variable {α β : Type} {c : Prop}

theorem nil {v : α} : AcceptsSeq c (Res.ok v) .nil v :=
  fun _ _ _ w => by cases w; rfl

theorem cons {rd : Bytes → Res α} {f : α → Bytes → Res β} {o os a v} (h1 : Accepts c rd o a)
    (h2 : AcceptsSeq c (f a) os v) : AcceptsSeq c (fun b => (rd b).bind f) (.cons o os) v :=
  fun _ _ _ w => by
    cases w with | cons hp hx w =>
    simp only [h1 hp hx, Res.bind]
    exact h2 w

theorem single {rd : Bytes → Res α} {o v} (h : Accepts c rd o v) : AcceptsSeq c rd (.cons o .nil) v :=
  fun _ _ _ w => by
    cases w with | cons hp hx w =>
    cases w
    exact h hp hx

theorem ite_neg {cond : Prop} [Decidable cond] {x y : Bytes → Res α} {os v} (hc : ¬ cond) (h : AcceptsSeq c y os v) :
    AcceptsSeq c (fun b => if cond then x b else y b) os v := by
  simp only [if_neg hc]; exact h

theorem ite_pos {cond : Prop} [Decidable cond] {x y : Bytes → Res α} {os v} (hc : cond) (h : AcceptsSeq c x os v) :
    AcceptsSeq c (fun b => if cond then x b else y b) os v := by
  simp only [if_pos hc]; exact h

end AcceptsSeq

/-- a map as the generated decoders accept it: non-empty string keys, values admitted by `ok` -/
def KVsOK (ok : Bytes → Obj → Prop) : Objs → Prop
  | .nil => True
  | .cons k (.cons v rest) => (∃ s, k = .str s ∧ s ≠ [] ∧ ok s v) ∧ KVsOK ok rest
  | .cons _ .nil => False

/-- the entries applied in wire order -/
def foldKVs {σ : Type} (apply : σ → Bytes → Obj → σ) : Objs → σ → σ
  | .cons (.str k) (.cons v rest), s => foldKVs apply rest (apply s k v)
  | _, s => s

theorem readFields_run {σ : Type} {c : Prop} (p : Path) (h : Bytes → Option (σ → Bytes → Res σ))
    (apply : σ → Bytes → Obj → σ) (ok : Bytes → Obj → Prop)
    (hc : ∀ k v s, ok k v → Accepts c (fieldOf p (h k) s) v (apply s k v)) :
    ∀ (n : Nat) {b kvs r} (s : σ), Run c (2*n) b kvs r → KVsOK ok kvs →
      readFields p h n s b = .ok (foldKVs apply kvs s) r := by
  intro n
  induction n with
  | zero => intro _ _ _ _ w _; cases w; rfl
  | succ n ih =>
    intro _ _ _ s w hk
    cases (show Run c (2*n+1+1) _ _ _ from w) with | cons pk _ w1 =>
    cases w1 with | cons pv hxv w2 =>
    obtain ⟨⟨k, rfl, hne, hv⟩, hk⟩ := hk
    simp only [readFields_succ, readMapKey_of_parse_str p pk hne, hc k _ s hv pv hxv, Res.bind]
    exact ih _ w2 hk

theorem readFields_complete {σ : Type} (p : Path) (h : Bytes → Option (σ → Bytes → Res σ))
    (apply : σ → Bytes → Obj → σ) (ok : Bytes → Obj → Prop)
    (hc : ∀ (k : Bytes) (v : Obj) (s : σ) (b r : Bytes), parse b = some (v, r) → ok k v →
      (p = .stream → hasExt32 b = false) →
      (match h k with
       | some f => f s b
       | none => (skipP p b).bind fun _ b2 => .ok s b2) = .ok (apply s k v) r) :
    ∀ (n : Nat) (b : Bytes) (kvs : Objs) (r : Bytes) (s : σ),
      parseSeq (2*n) b = some (kvs, r) → KVsOK ok kvs → (p = .stream → ext32Seq (2*n) b = false) →
      readFields p h n s b = .ok (foldKVs apply kvs s) r :=
  fun n _ _ _ s hp hk hx =>
    readFields_run p h apply ok (fun k v s hv b r hp hx => hc k v s b r hp hv hx) n s (.of_seq hp hx) hk

theorem Accepts.fields {σ : Type} {c : Prop} {p : Path} {h : Bytes → Option (σ → Bytes → Res σ)}
    {apply : σ → Bytes → Obj → σ} {ok : Bytes → Obj → Prop}
    (hc : ∀ k v s, ok k v → Accepts c (fieldOf p (h k) s) v (apply s k v)) {kvs} (hk : KVsOK ok kvs) (recv : σ) :
    Accepts c (fun b => (readMapHeader b).bind fun n b1 => readFields p h n recv b1) (.map kvs)
      (foldKVs apply kvs recv) :=
  .mapHdr fun n _ _ w => readFields_run p h apply ok hc n recv w hk

theorem skipField_accepts {σ : Type} (p : Path) (s : σ) (v : Obj) : Accepts (p = .stream) (fieldOf p none s) v s :=
  fun _ _ hp hx => by simp only [fieldOf, skipP_of_parse hp hx, Res.bind]

/-- the values an option key admits (`size`: an integer in the int64 range or nil; `chunk`,
`compressed`: a string; any other key: anything) -/
def OptValOK (k : Bytes) (v : Obj) : Prop :=
  if k = kSize then (v = .nil ∨ ∃ i, v = .int i ∧ inInt64 i)
  else if k = kChunk ∨ k = kCompressed then ∃ s, v = .str s
  else True

/-- an option map as the protocol describes it: non-empty string keys, admissible values -/
def OptKVsOK : Objs → Prop
  | .nil => True
  | .cons k (.cons v rest) => (∃ s, k = .str s ∧ s ≠ [] ∧ OptValOK s v) ∧ OptKVsOK rest
  | .cons _ .nil => False

/-- what one entry does to the options read so far -/
def applyOpt (o : Options) (k : Bytes) (v : Obj) : Options :=
  if k = kSize then (match v with | .int i => { o with size := some i } | _ => { o with size := none })
  else if k = kChunk then (match v with | .str s => { o with chunk := s } | _ => o)
  else if k = kCompressed then (match v with | .str s => { o with compressed := s } | _ => o)
  else o

/-- the option map as a fold over its entries in wire order (a later entry for the same key wins) -/
def foldOpts : Objs → Options → Options
  | .cons (.str k) (.cons v rest), o => foldOpts rest (applyOpt o k v)
  | _, o => o

theorem OptKVsOK_iff : ∀ kvs, OptKVsOK kvs ↔ KVsOK OptValOK kvs
  | .nil | .cons _ .nil => .rfl
  | .cons _ (.cons _ rest) => and_congr_right' (OptKVsOK_iff rest)

theorem foldOpts_eq (kvs : Objs) (o : Options) : foldOpts kvs o = foldKVs applyOpt kvs o := by
  fun_induction foldOpts kvs o with
  | case1 k v rest o ih => rw [foldKVs, ih]
  | case2 kvs o h => rw [foldKVs.eq_2 _ _ _ h]

theorem Options.field_accepts (p : Path) (k v o) (hv : OptValOK k v) :
    Accepts (p = .stream) (fieldOf p (Options.handlers k) o) v (applyOpt o k v) := by
  unfold OptValOK at hv
  simp only [Options.handlers, fieldOf_ite, applyOpt]
  refine .ite (fun h => ?_) fun h => .ite (fun h2 => ?_) fun _ => .ite (fun h3 => ?_) fun _ => skipField_accepts p o v
  · rw [if_pos h] at hv
    obtain rfl | ⟨i, rfl, hi⟩ := hv
    · exact .nil _
    · exact .notNil (.map (.of fun hp => readInt64_iff.2 ⟨hp, hi⟩) _) nofun
  · rw [if_neg h, if_pos (.inl h2)] at hv; obtain ⟨s, rfl⟩ := hv; exact .map (.of readString_iff.2) _
  · rw [if_neg h, if_pos (.inr h3)] at hv; obtain ⟨s, rfl⟩ := hv; exact .map (.of readString_iff.2) _

/-- `MessageOptions` decoding of any conforming option map -/
theorem Options.accepts (p : Path) (recv : Options) {kvs} (hk : OptKVsOK kvs) :
    Accepts (p = .stream) (Options.unmarshal p recv) (.map kvs) (foldOpts kvs recv) :=
  foldOpts_eq kvs recv ▸ .fields (Options.field_accepts p) ((OptKVsOK_iff kvs).1 hk) recv

/-- the trailing option element: nil or a conforming map -/
def OptObjOK : Obj → Prop
  | .nil => True
  | .map kvs => OptKVsOK kvs
  | _ => False

def optOfObj : Obj → Option Options
  | .map kvs => some (foldOpts kvs {})
  | _ => none

theorem readOptionsOrNil_accepts (p : Path) : ∀ {o}, OptObjOK o →
    Accepts (p = .stream) (readOptionsOrNil p) o (optOfObj o)
  | .nil, _ => .nil _
  | .map _, ho => .notNil (.map (Options.accepts p {} ho) _) nofun

/-- the optional fourth / third element -/
def TailOK : Objs → Prop
  | .nil => True
  | .cons opt .nil => OptObjOK opt
  | _ => False

def optOfTail : Objs → Option Options
  | .cons opt _ => optOfObj opt
  | .nil => none

theorem TailOK.arity : ∀ {tail}, TailOK tail → ∀ k, ¬ (tail.length + k ≠ k ∧ tail.length + k ≠ k + 1)
  | .nil, _, k | .cons _ .nil, _, k => by simp only [Objs.length]; omega

/-- the tail of a mode array: nothing (3 / 2 elements) or the option element (4 / 3 elements) -/
theorem optTail_accepts {α} (p : Path) : ∀ {tail}, TailOK tail → ∀ (k : Nat) (g : Option Options → α),
    AcceptsSeq (p = .stream)
      (fun b => if tail.length + k = k + 1 then (readOptionsOrNil p b).map g else .ok (g none) b) tail (g (optOfTail tail))
  | .nil, _, k, g => .ite_neg (by simp only [Objs.length]; omega) .nil
  | .cons _ .nil, ht, k, g => .ite_pos (by simp only [Objs.length]; omega) (.single (.map (readOptionsOrNil_accepts p ht) g))

theorem readEventTime_accepts {c : Prop} {d ts} (hd : d.length = 8) (hts : decodeET d = some ts) :
    Accepts c readEventTime (.ext 0 d) ts := .of fun hp => by
  obtain ⟨i, hi, h⟩ := readEventTime_of_parse hp hd
  rwa [hts.symm.trans hi |> Option.some.inj]

/-- an entry as the protocol describes it: `[EventTime, record]` -/
def EntryObjOK : Obj → Prop
  | .arr (.cons (.ext t d) (.cons rec .nil)) => t = 0 ∧ d.length = 8 ∧ Obj.Plain rec
  | _ => False

def entryOfObj : Obj → EntryExt
  | .arr (.cons (.ext _ d) (.cons rec _)) => { ts := (decodeET d).getD { sec := 0, nsec := 0 }, record := rec }
  | _ => {}

def EntriesOK : Objs → Prop
  | .nil => True
  | .cons e es => EntryObjOK e ∧ EntriesOK es

def entriesOfObjs : Objs → List EntryExt
  | .nil => []
  | .cons e es => entryOfObj e :: entriesOfObjs es

theorem EntryExt.accepts {c : Prop} (p : Path) (recv : EntryExt) : ∀ {e}, EntryObjOK e →
    Accepts c (EntryExt.unmarshal p recv) e (entryOfObj e)
  | .arr (.cons (.ext _ d) (.cons rec .nil)), ⟨rfl, hd, hrec⟩ => by
    obtain ⟨ts, hts⟩ := decodeET_of_length hd
    simp only [entryOfObj, hts, Option.getD_some]
    exact .arr (.ite_neg (· rfl) <| .cons (readEventTime_accepts hd hts) <|
      .single (.map (.of (readIntf_complete p · hrec)) _))

theorem readEntries_accepts {c : Prop} (p : Path) : ∀ {es}, EntriesOK es →
    AcceptsSeq c (readEntries p es.length) es (entriesOfObjs es)
  | .nil, _ => .nil
  | .cons _ _, ⟨he, hes⟩ => .cons (EntryExt.accepts p {} he) fun _ _ _ w => by
      simp only [readEntries_accepts p hes w, Res.map, entriesOfObjs]

theorem EntryList.accepts {c : Prop} (p : Path) {es} (hes : EntriesOK es) :
    Accepts c (EntryList.unmarshal p) (.arr es) (entriesOfObjs es) :=
  .arr (readEntries_accepts p hes)

def ackOK (k : Bytes) (v : Obj) : Prop := k = kAck → ∃ s, v = .str s
def ackApply (a : Ack) (k : Bytes) (v : Obj) : Ack :=
  if k = kAck then (match v with | .str s => { ack := s } | _ => a) else a

theorem Ack.field_accepts (p : Path) (k v a) (hv : ackOK k v) :
    Accepts (p = .stream) (fieldOf p (Ack.handlers k) a) v (ackApply a k v) := by
  simp only [Ack.handlers, fieldOf_ite, ackApply]
  refine .ite (fun h => ?_) fun _ => skipField_accepts p a v
  obtain ⟨s, rfl⟩ := hv h; exact .map (.of readString_iff.2) _

def heloOK (k : Bytes) (v : Obj) : Prop :=
  if k = kNonce ∨ k = kAuth then ∃ s, v = .bin s
  else if k = kKeepalive then ∃ t, v = .bool t
  else True

def heloApply (o : HeloOpts) (k : Bytes) (v : Obj) : HeloOpts :=
  if k = kNonce then (match v with | .bin s => { o with nonce := s } | _ => o)
  else if k = kAuth then (match v with | .bin s => { o with auth := s } | _ => o)
  else if k = kKeepalive then (match v with | .bool t => { o with keepalive := t } | _ => o)
  else o

theorem HeloOpts.field_accepts (p : Path) (k v o) (hv : heloOK k v) :
    Accepts (p = .stream) (fieldOf p (HeloOpts.handlers k) o) v (heloApply o k v) := by
  unfold heloOK at hv
  simp only [HeloOpts.handlers, fieldOf_ite, heloApply]
  refine .ite (fun h => ?_) fun h => .ite (fun h2 => ?_) fun h2 => .ite (fun h3 => ?_) fun _ => skipField_accepts p o v
  · rw [if_pos (.inl h)] at hv; obtain ⟨s, rfl⟩ := hv; exact .map (.of readBytes_iff.2) _
  · rw [if_pos (.inr h2)] at hv; obtain ⟨s, rfl⟩ := hv; exact .map (.of readBytes_iff.2) _
  · rw [if_neg (not_or.2 ⟨h, h2⟩), if_pos h3] at hv; obtain ⟨t, rfl⟩ := hv; exact .map (.of readBool_iff.2) _

end FV
