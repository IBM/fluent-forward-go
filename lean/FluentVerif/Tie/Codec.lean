import FluentVerif.Gen.Codec
/-! # The decoder models are what the source says now

`Gen/Codec.lean` is regenerated from /repo's working tree on every run: the bodies of the decoders, statement by statement
(`translator/codec.go`).  Here are the eight hand-written ones (`UnmarshalMsg` and `DecodeMsg` of `Message`, `MessageExt`,
`ForwardMessage`, `PackedForwardMessage`) and the eight msgp-generated ones of the tuple types (`Entry`, `EntryExt`, `Ping`,
`Pong`); the map types and `EntryList` are in `Tie/CodecMap.lean`.  Each theorem states that *running that regenerated
body* (`Sk.run`, `Sk/Interp.lean`) gives, for every receiver and every input, exactly the result of the decoder model
in `Proto/Decode.lean` — the definitions all of C01, C10, C13, C18 are proved about, and the ones the driver executes.
A change to a decoder's source changes the generated skeleton, and the proof here no longer checks unless the changed
body still computes the same function. -/
namespace FV.Tie
open FV.Sk FV.Gen.Codec

/-- on an empty input a nested options decode fails, like `readNil`: what `exec_nextNilOrErr` asks of the stream decoders' tails -/
theorem Options_unmarshal_nil (p : Path) (o : Options) : Options.unmarshal p o [] = .err := rfl
theorem Res.err_bind {α β} (f : α → Bytes → Res β) : (Res.err : Res α).bind f = .err := rfl
attribute [sk_step] Options_unmarshal_nil Res.err_bind

theorem Res.bind_congr {α β} {x : Res α} {f g : α → Bytes → Res β} (h : ∀ a r, f a r = g a r) : x.bind f = x.bind g :=
  congrArg x.bind (funext fun a => funext (h a))

theorem Message_UnmarshalMsg_is_model (recv : Message) (b : Bytes) :
    run MessageF .bytes Message_UnmarshalMsg recv b = Message.unmarshal .bytes recv b := by
  simp only [Message_UnmarshalMsg, MessageF, Message.unmarshal, sk_step]

theorem MessageExt_UnmarshalMsg_is_model (recv : MessageExt) (b : Bytes) :
    run MessageExtF .bytes MessageExt_UnmarshalMsg recv b = MessageExt.unmarshal .bytes recv b := by
  simp only [MessageExt_UnmarshalMsg, MessageExtF, MessageExt.unmarshal, sk_step]

theorem Forward_UnmarshalMsg_is_model (recv : Forward) (b : Bytes) :
    run ForwardF .bytes Forward_UnmarshalMsg recv b = Forward.unmarshal .bytes recv b := by
  simp only [Forward_UnmarshalMsg, ForwardF, Forward.unmarshal, sk_step]

/-- `PackedForwardMessage`: the stream decoder looks at the next type as the slice decoder does; one body text, at either path -/
theorem Packed_body_is_model (p : Path) (recv : Packed) (b : Bytes) :
    run PackedF p Packed_UnmarshalMsg recv b = Packed.unmarshal p recv b := by
  simp only [Packed_UnmarshalMsg, PackedF, Packed.unmarshal, sk_step]

theorem Packed_UnmarshalMsg_is_model (recv : Packed) (b : Bytes) :
    run PackedF .bytes Packed_UnmarshalMsg recv b = Packed.unmarshal .bytes recv b := Packed_body_is_model ..

theorem Packed_DecodeMsg_is_model (recv : Packed) (b : Bytes) :
    run PackedF .stream Packed_DecodeMsg recv b = Packed.unmarshal .stream recv b := Packed_body_is_model ..

theorem Message_DecodeMsg_is_model (recv : Message) (b : Bytes) :
    run MessageF .stream Message_DecodeMsg recv b = Message.unmarshal .stream recv b := by
  simp only [Message_DecodeMsg, MessageF, Message.unmarshal, sk_step]

theorem MessageExt_DecodeMsg_is_model (recv : MessageExt) (b : Bytes) :
    run MessageExtF .stream MessageExt_DecodeMsg recv b = MessageExt.unmarshal .stream recv b := by
  simp only [MessageExt_DecodeMsg, MessageExtF, MessageExt.unmarshal, sk_step]

theorem Forward_DecodeMsg_is_model (recv : Forward) (b : Bytes) :
    run ForwardF .stream Forward_DecodeMsg recv b = Forward.unmarshal .stream recv b := by
  simp only [Forward_DecodeMsg, ForwardF, Forward.unmarshal, sk_step]

/-! ### msgp-generated tuple decoders (`Entry`, `EntryExt`, `Ping`, `Pong`): the receiver's old field values do not
show in the result, because every field is assigned before the function returns successfully.  `UnmarshalMsg` and `DecodeMsg` have
the same body text: the tie is proved for it at any path, and holds of the other by unfolding both names. -/

theorem Entry_body_is_model (p : Path) (recv : Entry) (b : Bytes) :
    run EntryF p Entry_UnmarshalMsg recv b = Entry.unmarshal p recv b := by
  simp only [Entry_UnmarshalMsg, EntryF, Entry.unmarshal, sk_step]
theorem Entry_UnmarshalMsg_is_model (recv : Entry) (b : Bytes) :
    run EntryF .bytes Entry_UnmarshalMsg recv b = Entry.unmarshal .bytes recv b := Entry_body_is_model ..
theorem Entry_DecodeMsg_is_model (recv : Entry) (b : Bytes) :
    run EntryF .stream Entry_DecodeMsg recv b = Entry.unmarshal .stream recv b := Entry_body_is_model ..
theorem EntryExt_body_is_model (p : Path) (recv : EntryExt) (b : Bytes) :
    run EntryExtF p EntryExt_UnmarshalMsg recv b = EntryExt.unmarshal p recv b := by
  simp only [EntryExt_UnmarshalMsg, EntryExtF, EntryExt.unmarshal, sk_step]
theorem EntryExt_UnmarshalMsg_is_model (recv : EntryExt) (b : Bytes) :
    run EntryExtF .bytes EntryExt_UnmarshalMsg recv b = EntryExt.unmarshal .bytes recv b := EntryExt_body_is_model ..
theorem EntryExt_DecodeMsg_is_model (recv : EntryExt) (b : Bytes) :
    run EntryExtF .stream EntryExt_DecodeMsg recv b = EntryExt.unmarshal .stream recv b := EntryExt_body_is_model ..
theorem Ping_body_is_model (p : Path) (recv : Ping) (b : Bytes) :
    run PingF p Ping_UnmarshalMsg recv b = Ping.unmarshal p recv b := by
  simp only [Ping_UnmarshalMsg, PingF, Ping.unmarshal, sk_step]
theorem Ping_UnmarshalMsg_is_model (recv : Ping) (b : Bytes) :
    run PingF .bytes Ping_UnmarshalMsg recv b = Ping.unmarshal .bytes recv b := Ping_body_is_model ..
theorem Ping_DecodeMsg_is_model (recv : Ping) (b : Bytes) :
    run PingF .stream Ping_DecodeMsg recv b = Ping.unmarshal .stream recv b := Ping_body_is_model ..
theorem Pong_body_is_model (p : Path) (recv : Pong) (b : Bytes) :
    run PongF p Pong_UnmarshalMsg recv b = Pong.unmarshal p recv b := by
  simp only [Pong_UnmarshalMsg, PongF, Pong.unmarshal, sk_step]
theorem Pong_UnmarshalMsg_is_model (recv : Pong) (b : Bytes) :
    run PongF .bytes Pong_UnmarshalMsg recv b = Pong.unmarshal .bytes recv b := Pong_body_is_model ..
theorem Pong_DecodeMsg_is_model (recv : Pong) (b : Bytes) :
    run PongF .stream Pong_DecodeMsg recv b = Pong.unmarshal .stream recv b := Pong_body_is_model ..

/-- the statement language is not vacuous: a statement the translator does not understand, a field of another type
and a missing return all make `run` panic, so none of the equalities above could hold for such a body -/
example : run MessageF .bytes [.unknown "x"] {} [] = .panic "statement not understood by the translator: x" := by
  simp only [sk_step, String.reduceAppend]
example : (run MessageF .bytes [.read .Tag .int64, .retOk] {} [0x01]).isPanic = true := by decide
example : (run MessageF .bytes [.read .Tag .str] {} [0xa0]).isPanic = true := by decide
/-- … and a body that stops after the tag leaves the rest of the message unread, where the model consumes it -/
example : (run MessageF .bytes [.read .sz .arrayHeader, .read .Tag .str, .retOk] {} [0x93, 0xa1, 0x41, 0x05, 0x80]).rest?
      = some [0x05, 0x80]
    ∧ (Message.unmarshal .bytes {} [0x93, 0xa1, 0x41, 0x05, 0x80]).rest? = some [] := by decide

end FV.Tie
