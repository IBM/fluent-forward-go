import FluentVerif.Gen.Chunk
import FluentVerif.Tie.Codec
/-! # `GetChunk` is what the source says now

The body of `protocol.GetChunk`, regenerated from /repo's working tree on every run (`Gen/Chunk.lean`), run on any byte string
(`Sk.Ch.runG`), gives exactly the result of the model `getChunk` (`Proto/Chunk.lean`) that C10 and C11 are proved about (the checks
of C04 and C12 list this tie as well) and that the driver evaluates for `RawMessage.Chunk()` (`Driver/Tcp.lean`; the client model is handed the chunk id as an argument). -/
namespace FV.Tie
open FV.Sk.Ch FV.Gen.Chunk

/-- the key the regenerated loop compares with is the `chunk` option key of the model -/
theorem chunkKey_is_kChunk : chunkKeyBits.map (·.map UInt8.ofNat) = some kChunk := by decide

theorem readMapHeader_of_not_map (b : Bytes) (h : nextIsMap b = false) : readMapHeader b = .err := by
  unfold nextIsMap at h; unfold readMapHeader
  split at h <;> simp_all

/-- the key loop of the regenerated body is the model's `getChunkKeys`.  This and `GetChunk_tail` quote the statements as the translator
prints them in `Gen/Chunk.lean` today: if its output shifts they stay true, and `GetChunk_is_model` fails where the quoted list no
longer unifies with the regenerated one.  `hk`: the model's loop ends in `.err` itself when no key is `chunk`; the body has a `return`
after the loop for that. -/
theorem gloop_keys (n : Nat) (k : G → Res Bytes) (hk : ∀ g, k g = .err) (g : G) :
    gloop kChunk [.readKey, .ifKeyIsChunk [.retReadMapKey], .skip] n k g = getChunkKeys n g.b := by
  induction n generalizing g with
  | zero => simp [gloop, getChunkKeys, hk]
  | succ n ih =>
    simp only [gloop, gexecs, gexec, getChunkKeys]
    apply Res.bind_congr; intro key r
    split
    · rfl
    · apply Res.bind_congr; intro _ r2
      exact ih _

/-- from the record on: skip it, then the options map and its key loop -/
theorem GetChunk_tail (k : G → Res Bytes) (g : G) :
    gexecs kChunk [.skip, .ifNextNotMap [.retErr], .readMapHeader, .forKeys [.readKey, .ifKeyIsChunk [.retReadMapKey], .skip], .retErr] k g
      = (skipP .stream g.b).bind fun _ b4 => (readMapHeader b4).bind fun n b5 => getChunkKeys n b5 := by
  simp only [gexecs, gexec]
  refine Res.bind_congr fun _ b4 => ?_
  cases hm : nextIsMap b4
  · rw [readMapHeader_of_not_map b4 hm]; rfl
  · exact Res.bind_congr fun n b5 => gloop_keys n _ (fun _ => by simp only [gexecs, gexec]) _

theorem GetChunk_is_model (b : Bytes) : runG kChunk GetChunk b = getChunk b := by
  -- the body runs that tail in both branches of its timestamp test; the model binds it once behind the test
  simp only [runG, GetChunk, GetChunk_tail, gexecs, gexec, getChunk, Res.ite_bind, Res.err_bind, Res.ok_bind']
  refine Res.bind_congr fun sz b1 => ?_
  split
  · rfl
  · refine Res.bind_congr fun _ b2 => ?_
    -- `NextType` fails on an empty input; the model gets its error from the next `Skip`
    cases b2 <;> rfl

end FV.Tie
