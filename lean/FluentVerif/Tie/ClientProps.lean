import FluentVerif.Tie.Client
import FluentVerif.Props.C04
import FluentVerif.Props.C05
import FluentVerif.Props.C06
import FluentVerif.Props.C09
/-! # The property theorems, restated for the regenerated method bodies

`Tie/Client.lean` proves that running the regenerated bodies of the TCP client's methods is the sequential model's `step`.  Here the
property theorems of C04, C05, C06 and C09 are restated with `runC … Gen.Client.Client_M` in place of the model function: statements
about what the source — as re-read on this run — does. -/
namespace FV.Tie
open FV.Tcp FV.Sk.Cl FV.Gen.Client

variable (H : Bytes → Bytes)

/-- **C04 over the regenerated `Send`**: with acks required, in transport phase, for a message that `Chunk()` and the encoder accept:
success ⇔ the connection accepted every byte ∧ the response starts with a map the ack decoder accepts whose `ack` is this chunk id -/
theorem C04_Send_regenerated (cfg : Cfg) (i : In) (s : St) (id : Nat) (e : Bytes)
    (hs : s.session = some (id, true)) (hack : cfg.requireAck = true) (he : encOf cfg i = some e) :
    (runC H cfg i (callees H cfg i) Client_Send s).2 = .ok ↔
      ((doWrite e i.fault).2 = .ok ∧ ∃ a r, Ack.unmarshal .stream {} i.resp = .ok a r ∧ a.ack = i.chunk) := by
  rw [Client_Send_is_model, he]
  exact C04_success_iff cfg s id e i.chunk i.fault i.resp hs hack

/-- **C09 over the regenerated `Send`**: a nil result means the connection accepted the whole encoding, in one write, in transport phase -/
theorem C09_Send_regenerated (cfg : Cfg) (i : In) (s : St) (e : Bytes) (he : encOf cfg i = some e)
    (h : (runC H cfg i (callees H cfg i) Client_Send s).2 = .ok) :
    ∃ id, s.session = some (id, true) ∧
      Ev.write id e .ok ∈ newEvents s (runC H cfg i (callees H cfg i) Client_Send s).1 := by
  rw [Client_Send_is_model, he] at h ⊢
  exact C09_ok_all cfg s e i.chunk i.fault i.resp h

/-- **C06 over the regenerated `Send` / `SendRaw`**: outside a live session in transport phase they return an error and touch nothing -/
theorem C06_Send_regenerated (cfg : Cfg) (i : In) (s : St) (h : s.session = none ∨ ∃ id, s.session = some (id, false)) :
    runC H cfg i (callees H cfg i) Client_Send s = (s, .err) ∧ runC H cfg i (callees H cfg i) Client_SendRaw s = (s, .err) := by
  rw [Client_Send_is_model, Client_SendRaw_is_model]
  exact ⟨C06_send_needs_transport cfg s _ _ _ _ h, C06_sendRaw_needs_transport s _ _ h⟩

/-- **C05 over the regenerated `Handshake`**: the session enters transport phase exactly when the peer's bytes are a HELO with options
and a PONG with `auth_result = true` carrying the digest for this salt, nonce and key, and the PING went out whole -/
theorem C05_Handshake_regenerated (cfg : Cfg) (i : In) (s : St) (id : Nat) (hs : s.session = some (id, false)) :
    (runC H cfg i (callees H cfg i) Client_Handshake s).1.session = some (id, true) ↔
      ∃ h rest0 ho p rest,
        Helo.unmarshal .stream {} i.helo = .ok h rest0 ∧ h.options = some ho ∧
        (doWrite (pingMsg H cfg i.salt ho.nonce).marshal i.fault).2 = .ok ∧
        Pong.unmarshal .stream {} (rest0 ++ i.pong) = .ok p rest ∧
        p.authResult = true ∧ p.digest = H (i.salt ++ p.hostname ++ ho.nonce ++ cfg.sharedKey.getD []) := by
  rw [Client_Handshake_is_model]
  exact C05_accept_iff H cfg s id i.helo i.salt i.pong i.fault hs

end FV.Tie
