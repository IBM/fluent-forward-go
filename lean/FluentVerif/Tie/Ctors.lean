import FluentVerif.Gen.Ctors
/-! # The packed / compressed constructors are what the source says now (C02, C03, C07) -/
namespace FV.Tie
open FV.Sk.Ct FV.Gen.Ctors

def fromBytesSem (tag b : Bytes) : Option Packed := runFromBytes tag b NewPackedForwardMessageFromBytes

theorem NewPackedForwardMessageFromBytes_is_model (tag b : Bytes) :
    fromBytesSem tag b = some { tag := tag, stream := b, options := none } := rfl

theorem NewPackedForwardMessage_is_model (tag : Bytes) (es : List (Instant × GoVal)) :
    runNewPacked fromBytesSem tag es NewPackedForwardMessage {} = some (newPacked tag es) := by
  simp only [NewPackedForwardMessage, runNewPacked, newPacked]
  cases marshalPacked es <;> rfl

def compressedFromBytesSem (cd : Codec) (pooled : Compressor) (tag payload : Bytes) : Option (Option Packed) :=
  runCompressedFromBytes cd pooled fromBytesSem tag payload NewCompressedPackedForwardMessageFromBytes {}

theorem NewCompressedPackedForwardMessageFromBytes_is_model (cd : Codec) (pooled : Compressor) (tag payload : Bytes) :
    compressedFromBytesSem cd pooled tag payload = some (newCompressedFromBytes cd pooled tag payload) := by
  simp only [compressedFromBytesSem, NewCompressedPackedForwardMessageFromBytes, runCompressedFromBytes, newCompressedFromBytes,
    Option.bind]
  rfl

theorem NewCompressedPackedForwardMessage_is_model (cd : Codec) (pooled : Compressor) (tag : Bytes) (es : List (Instant × GoVal)) :
    runNewCompressed (compressedFromBytesSem cd pooled) tag es NewCompressedPackedForwardMessage {} = some (newCompressed cd pooled tag es) := by
  simp only [NewCompressedPackedForwardMessage, runNewCompressed, newCompressed, NewCompressedPackedForwardMessageFromBytes_is_model]
  cases marshalPacked es with
  | none => rfl
  | some b => cases hc : newCompressedFromBytes cd pooled tag b <;> simp only [Option.bind, hc] <;> rfl

/-- `GzipCompressor`: `Write` is one write and the close of the member, whichever fails first; `Reset` empties the buffer and restarts
the writer on it (or creates both on first use); `Bytes` is the buffer — the three facts `Compressor.write / reset / buffer` model.
This pins the bodies; the statements are not run -/
theorem GzipCompressor_shape :
    GzipCompressor_Write = [.gzWrite, .gzClose, .retErr] ∧ GzipCompressor_Reset = [.ifFirstUseInit, .bufReset, .gzReset] ∧
    GzipCompressor_Bytes = [.retBuffer] := ⟨rfl, rfl, rfl⟩

/-- the three plain constructors build what the helper model (`Helper.wire`) encodes: the second of the call for `NewMessage`, the
instant itself for `NewMessageExt`, the entries with `size = len(entries)` for `NewForwardMessage` — no other option -/
theorem plain_constructors (now : Instant) (tag : Bytes) (r : GoVal) (es : List (Instant × GoVal)) :
    runNewMessage now tag r NewMessage = some (tag, now.sec, r) ∧
    runNewMessageExt (runEventTimeNow now EventTimeNow) tag r NewMessageExt = some (tag, now, r) ∧
    runNewForward tag es NewForwardMessage = some (tag, es, some { size := some es.length }) := ⟨rfl, rfl, rfl⟩

/-- `RawMessage.EncodeMsg` hands the writer the bytes verbatim, `nil` for an empty message; `RawMessage.Chunk` is `GetChunk` -/
theorem RawMessage_is_model (rm : Bytes) :
    runRawEncode rm RawMessage_EncodeMsg = some (if rm.isEmpty then [0xc0] else rm) ∧ RawMessage_Chunk = [.retGetChunk] := ⟨rfl, rfl⟩

end FV.Tie
