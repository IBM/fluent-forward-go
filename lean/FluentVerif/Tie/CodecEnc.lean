import FluentVerif.Gen.Codec
import FluentVerif.Sk.EncSteps
/-! # The encoder models are what the source says now

As `Tie/Codec.lean`, for the encoders: running the regenerated bodies of `MarshalMsg` / `EncodeMsg`
(`Gen/Codec.lean`, from /repo's working tree on every run) on a message and the bytes the caller handed in gives
exactly those bytes followed by the encoder model's output (`Proto/Encode.lean`) — `.err` where the model has no
encoding (an unencodable record).  One model serves both paths; both bodies are proved equal to it. -/
namespace FV.Tie
open FV.Sk FV.Gen.Codec

/-- what the model says an encoder returns when asked to append to `pre` -/
def appended (pre : Bytes) (enc : Option Bytes) : ERes := ERes.ofOption (enc.map (pre ++ ·))

/-! the keys a msgp-generated body writes as literal bytes are the model's key strings -/
@[sk_step] theorem key_ack : appendString kAck = [163, 97, 99, 107] := rfl
@[sk_step] theorem key_nonce : appendString kNonce = [165, 110, 111, 110, 99, 101] := rfl
@[sk_step] theorem key_auth : appendString kAuth = [164, 97, 117, 116, 104] := rfl
@[sk_step] theorem key_keepalive : appendString kKeepalive = [169, 107, 101, 101, 112, 97, 108, 105, 118, 101] := rfl
@[sk_step] theorem key_size : appendString kSize = [164, 115, 105, 122, 101] := rfl
@[sk_step] theorem key_chunk : appendString kChunk = [165, 99, 104, 117, 110, 107] := rfl
@[sk_step] theorem key_compressed : appendString kCompressed = [170, 99, 111, 109, 112, 114, 101, 115, 115, 101, 100] := rfl

/-! Every tie but `EntryList`'s (a loop: `eloop_entries`) is one `simp` call with the body, the source's `get`, the model's
`marshal` and `sk_step`, which runs the body (`Sk/EncSteps.lean`) and unfolds the model beside it; what is left is the association
of `++`, for the default simp set.  Where the body or the model branches (a nil pointer, an unencodable record) the cases are made
first, so that no `match` is stuck. -/
attribute [sk_step] appended ERes.ofOption marshalOptPtr

theorem Message_MarshalMsg_is_model (m : MessageSrc) (pre : Bytes) :
    runEnc MessageSrc.get Message_MarshalMsg m pre = appended pre (Message.marshal m.tag m.ts m.record m.options) := by
  rcases m with ⟨tag, ts, rec, _ | opts⟩ <;> cases hh : GoVal.encode rec <;>
    simp [Message_MarshalMsg, MessageSrc.get, Message.marshal, hh, sk_step]

theorem Message_EncodeMsg_is_model (m : MessageSrc) (pre : Bytes) :
    runEnc MessageSrc.get Message_EncodeMsg m pre = appended pre (Message.marshal m.tag m.ts m.record m.options) := by
  rcases m with ⟨tag, ts, rec, _ | opts⟩ <;> cases hh : GoVal.encode rec <;>
    simp [Message_EncodeMsg, MessageSrc.get, Message.marshal, hh, sk_step]

theorem MessageExt_MarshalMsg_is_model (m : MessageExtSrc) (pre : Bytes) :
    runEnc MessageExtSrc.get MessageExt_MarshalMsg m pre = appended pre (MessageExt.marshal m.tag m.ts m.record m.options) := by
  rcases m with ⟨tag, ts, rec, _ | opts⟩ <;> cases hh : GoVal.encode rec <;>
    simp [MessageExt_MarshalMsg, MessageExtSrc.get, MessageExt.marshal, hh, sk_step]

theorem MessageExt_EncodeMsg_is_model (m : MessageExtSrc) (pre : Bytes) :
    runEnc MessageExtSrc.get MessageExt_EncodeMsg m pre = appended pre (MessageExt.marshal m.tag m.ts m.record m.options) := by
  rcases m with ⟨tag, ts, rec, _ | opts⟩ <;> cases hh : GoVal.encode rec <;>
    simp [MessageExt_EncodeMsg, MessageExtSrc.get, MessageExt.marshal, hh, sk_step]

theorem Forward_MarshalMsg_is_model (m : ForwardSrc) (pre : Bytes) :
    runEnc ForwardSrc.get Forward_MarshalMsg m pre = appended pre (Forward.marshal m.tag m.entries m.options) := by
  rcases m with ⟨tag, es, _ | opts⟩ <;> cases hh : EntryList.marshal es <;>
    simp [Forward_MarshalMsg, ForwardSrc.get, Forward.marshal, appendArrayHeader, hh, sk_step]

theorem Forward_EncodeMsg_is_model (m : ForwardSrc) (pre : Bytes) :
    runEnc ForwardSrc.get Forward_EncodeMsg m pre = appended pre (Forward.marshal m.tag m.entries m.options) := by
  rcases m with ⟨tag, es, _ | opts⟩ <;> cases hh : EntryList.marshal es <;>
    simp [Forward_EncodeMsg, ForwardSrc.get, Forward.marshal, appendArrayHeader, hh, sk_step]

theorem Packed_MarshalMsg_is_model (m : Packed) (pre : Bytes) :
    runEnc PackedSrc.get Packed_MarshalMsg m pre = appended pre (some (Packed.marshal m.tag m.stream m.options)) := by
  rcases m with ⟨tag, st, _ | opts⟩ <;> simp [Packed_MarshalMsg, PackedSrc.get, Packed.marshal, sk_step]

theorem Packed_EncodeMsg_is_model (m : Packed) (pre : Bytes) :
    runEnc PackedSrc.get Packed_EncodeMsg m pre = appended pre (some (Packed.marshal m.tag m.stream m.options)) := by
  rcases m with ⟨tag, st, _ | opts⟩ <;> simp [Packed_EncodeMsg, PackedSrc.get, Packed.marshal, sk_step]

theorem Entry_MarshalMsg_is_model (m : EntrySrc) (pre : Bytes) :
    runEnc EntrySrc.get Entry_MarshalMsg m pre = appended pre (Entry.marshal m.ts m.record) := by
  rcases m with ⟨ts, rec⟩; cases hh : GoVal.encode rec <;> simp [Entry_MarshalMsg, EntrySrc.get, Entry.marshal, hh, sk_step]
theorem Entry_EncodeMsg_is_model (m : EntrySrc) (pre : Bytes) :
    runEnc EntrySrc.get Entry_EncodeMsg m pre = appended pre (Entry.marshal m.ts m.record) := by
  rcases m with ⟨ts, rec⟩; cases hh : GoVal.encode rec <;> simp [Entry_EncodeMsg, EntrySrc.get, Entry.marshal, hh, sk_step]
theorem EntryExt_MarshalMsg_is_model (m : EntryExtSrc) (pre : Bytes) :
    runEnc EntryExtSrc.get EntryExt_MarshalMsg m pre = appended pre (EntryExt.marshal m.ts m.record) := by
  rcases m with ⟨ts, rec⟩; cases hh : GoVal.encode rec <;> simp [EntryExt_MarshalMsg, EntryExtSrc.get, EntryExt.marshal, hh, sk_step]
theorem EntryExt_EncodeMsg_is_model (m : EntryExtSrc) (pre : Bytes) :
    runEnc EntryExtSrc.get EntryExt_EncodeMsg m pre = appended pre (EntryExt.marshal m.ts m.record) := by
  rcases m with ⟨ts, rec⟩; cases hh : GoVal.encode rec <;> simp [EntryExt_EncodeMsg, EntryExtSrc.get, EntryExt.marshal, hh, sk_step]
theorem Ping_MarshalMsg_is_model (m : Ping) (pre : Bytes) :
    runEnc PingSrc.get Ping_MarshalMsg m pre = appended pre (some m.marshal) := by
  simp [Ping_MarshalMsg, PingSrc.get, Ping.marshal, sk_step]
theorem Ping_EncodeMsg_is_model (m : Ping) (pre : Bytes) :
    runEnc PingSrc.get Ping_EncodeMsg m pre = appended pre (some m.marshal) := by
  simp [Ping_EncodeMsg, PingSrc.get, Ping.marshal, sk_step]
theorem Pong_MarshalMsg_is_model (m : Pong) (pre : Bytes) :
    runEnc PongSrc.get Pong_MarshalMsg m pre = appended pre (some m.marshal) := by
  simp [Pong_MarshalMsg, PongSrc.get, Pong.marshal, sk_step]
theorem Pong_EncodeMsg_is_model (m : Pong) (pre : Bytes) :
    runEnc PongSrc.get Pong_EncodeMsg m pre = appended pre (some m.marshal) := by
  simp [Pong_EncodeMsg, PongSrc.get, Pong.marshal, sk_step]
theorem Ack_MarshalMsg_is_model (m : Ack) (pre : Bytes) :
    runEnc AckSrc.get Ack_MarshalMsg m pre = appended pre (some m.marshal) := by
  simp [Ack_MarshalMsg, AckSrc.get, Ack.marshal, sk_step]
theorem Ack_EncodeMsg_is_model (m : Ack) (pre : Bytes) :
    runEnc AckSrc.get Ack_EncodeMsg m pre = appended pre (some m.marshal) := by
  simp [Ack_EncodeMsg, AckSrc.get, Ack.marshal, sk_step]
theorem HeloOpts_MarshalMsg_is_model (m : HeloOpts) (pre : Bytes) :
    runEnc HeloOptsSrc.get HeloOpts_MarshalMsg m pre = appended pre (some m.marshal) := by
  simp [HeloOpts_MarshalMsg, HeloOptsSrc.get, HeloOpts.marshal, sk_step]
theorem HeloOpts_EncodeMsg_is_model (m : HeloOpts) (pre : Bytes) :
    runEnc HeloOptsSrc.get HeloOpts_EncodeMsg m pre = appended pre (some m.marshal) := by
  simp [HeloOpts_EncodeMsg, HeloOptsSrc.get, HeloOpts.marshal, sk_step]
theorem Helo_MarshalMsg_is_model (m : Helo) (pre : Bytes) :
    runEnc HeloSrc.get Helo_MarshalMsg m pre = appended pre (some m.marshal) := by
  rcases m with ⟨mt, _ | opts⟩ <;> simp [Helo_MarshalMsg, HeloSrc.get, Helo.marshal, HeloOpts.marshal, sk_step]
theorem Helo_EncodeMsg_is_model (m : Helo) (pre : Bytes) :
    runEnc HeloSrc.get Helo_EncodeMsg m pre = appended pre (some m.marshal) := by
  rcases m with ⟨mt, _ | opts⟩ <;> simp [Helo_EncodeMsg, HeloSrc.get, Helo.marshal, HeloOpts.marshal, sk_step]

/-! ### `MessageOptions` (all three fields `omitempty`): msgp counts the fields that will be written, remembers the ones left out in a
bit mask, writes the map header from the count and the fields the mask allows -/

theorem MessageOptions_MarshalMsg_is_model (o : Options) (pre : Bytes) :
    runEnc OptionsSrc.get MessageOptions_MarshalMsg o pre = appended pre (some o.marshal) := by
  rcases o with ⟨_ | sz, _ | ⟨c, ch⟩, _ | ⟨c', co⟩⟩ <;>
    simp [MessageOptions_MarshalMsg, OptionsSrc.get, Options.marshal, b2n, sk_step]

theorem MessageOptions_EncodeMsg_is_model (o : Options) (pre : Bytes) :
    runEnc OptionsSrc.get MessageOptions_EncodeMsg o pre = appended pre (some o.marshal) := by
  rcases o with ⟨_ | sz, _ | ⟨c, ch⟩, _ | ⟨c', co⟩⟩ <;>
    simp [MessageOptions_EncodeMsg, OptionsSrc.get, Options.marshal, b2n, sk_step]

/-- the loop appends the entries' encodings one after another; the first entry that cannot be encoded ends the call with its error.
The loop body is quoted as the translator prints it in `Gen/Codec.lean` today: if its output shifts this stays true, and the
`rw [eloop_entries …]` of the two ties below finds nothing to rewrite. -/
theorem eloop_entries (es : List (Instant × GoVal)) (k : St → ERes) (s : St) (hs : s.err = false) :
    eloop [.raw [146], .put .eventTime .Timestamp .checked, .put .intf .Record .checked] es k s
      = match marshalEntries es with
        | some bs => k { s with out := s.out ++ bs }
        | none => .err := by
  induction es generalizing s with
  | nil => simp [eloop, marshalEntries]
  | cons e es ih =>
    rcases e with ⟨t, r⟩
    simp only [eloop, sk_step, EntryExtSrc.get, marshalEntries, EntryExt.marshal]
    cases hr : GoVal.encode r with
    | none => simp
    | some rb =>
      simp only [Option.map]
      rw [ih _ (by simp)]
      cases marshalEntries es <;> simp [hs]

theorem EntryList_MarshalMsg_is_model (es : List (Instant × GoVal)) (pre : Bytes) :
    runLE EntryList_MarshalMsg es pre = appended pre (EntryList.marshal es) := by
  simp only [runLE, EntryList_MarshalMsg, eexecL, sk_step]
  rw [eloop_entries _ _ _ rfl]
  cases h : marshalEntries es <;> simp [EntryList.marshal, h]

theorem EntryList_EncodeMsg_is_model (es : List (Instant × GoVal)) (pre : Bytes) :
    runLE EntryList_EncodeMsg es pre = appended pre (EntryList.marshal es) := by
  simp only [runLE, EntryList_EncodeMsg, eexecL, sk_step]
  rw [eloop_entries _ _ _ rfl]
  cases h : marshalEntries es <;> simp [EntryList.marshal, h]

/-- not vacuous: an unknown statement, a nil options pointer handed to its encoder and a missing return are panics -/
example : runEnc MessageSrc.get [.unknown "x"] ⟨[], 0, .nil, none⟩ [] = .panic "statement not understood by the translator: x" := by
  simp only [sk_step, String.reduceAppend]   -- `rfl` would append the strings by unfolding
example : runEnc MessageSrc.get [.put .options .Options .checked, .ret] ⟨[], 0, .nil, none⟩ []
    = .panic "nil pointer dereference, or a field of another type" := rfl
example : runEnc MessageSrc.get [.raw [148]] ⟨[], 0, .nil, none⟩ [] = .panic "missing return" := rfl
/-- the Go variable `err` is state: an unchecked failing call is reported by the final return -/
example : runEnc ForwardSrc.get [.put .entryList .Entries .unchecked, .ret] ⟨[], [({ sec := 0, nsec := 0 }, .bad)], none⟩ [] = .err := by
  decide

end FV.Tie
