import FluentVerif.Tie.Codec
/-! # The msgp-generated map decoders (`MessageOptions`, `AckMessage`, `HeloOpts`, and `Helo` with its inlined options) are their models

The regenerated bodies (`Gen/Codec.lean`) contain the key loop `for n > 0 { n--; key; switch key { case …; default: Skip } }`
(`Stmt.mapLoop`, evaluated by `Sk.loopN` / `Sk.execCases`); the model has `readFields` over a handler table.  Both paths share the
body shape; the path only selects the key reader and `Skip`.  The element loop of the `EntryList` decoders (`Sk.mapEl`) is the
model's `readEntries` in the same way. -/
namespace FV.Tie
open FV.Sk FV.Gen.Codec

theorem Res.bind_ok_id {α} (x : Res α) : (x.bind fun a r => Res.ok a r) = x := by cases x <;> rfl

/-- what the model's `readFields` does with one key: the handler from the table, or skip the value; then `k`.  The handlers work on
a `τ` inside the receiver (`emb`): for `Helo` the struct behind its options pointer -/
def handlerStep {σ τ} (p : Path) (emb : τ → σ) (h : Bytes → Option (τ → Bytes → Res τ)) (key : Bytes) (k : σ → Bytes → Res σ) (t : τ) (b : Bytes) : Res σ :=
  match h key with
  | some f => (f t b).bind fun t' b' => k (emb t') b'
  | none => (skipP p b).bind fun _ b2 => k (emb t) b2

section
variable {σ τ} (p : Path) (emb : τ → σ) (key : Bytes) (k : σ → Bytes → Res σ) (t : τ) (b : Bytes)

/-- a handler table is an `if`-chain on the key, in the order of the `case`s of the `switch`; `handlerStep` follows it -/
theorem handlerStep_ite (c : Bytes) (f : τ → Bytes → Res τ) (h : Bytes → Option (τ → Bytes → Res τ)) :
    handlerStep p emb (fun x => if x = c then some f else h x) key k t b =
      if key = c then (f t b).bind fun t' b' => k (emb t') b' else handlerStep p emb h key k t b := by
  by_cases hc : key = c <;> simp only [handlerStep, hc, if_true, if_false]
theorem handlerStep_none : handlerStep p emb (fun _ => none) key k t b = (skipP p b).bind fun _ b2 => k (emb t) b2 := rfl
end

/-- one pass of the `switch` (`step`) has to do what the table says for that key: `hstep`, the `T_step` below -/
theorem loopN_eq_readFields {σ τ} (p : Path) (emb : τ → σ) (h : Bytes → Option (τ → Bytes → Res τ))
    (step : Bytes → (σ → Bytes → Res σ) → σ → Bytes → Res σ)
    (hstep : ∀ key k t b, step key k (emb t) b = handlerStep p emb h key k t b)
    (n : Nat) (k : σ → Bytes → Res σ) (t : τ) (b : Bytes) :
    loopN p step n k (emb t) b = (readFields p h n t b).bind fun t' b' => k (emb t') b' := by
  induction n generalizing t b with
  | zero => rfl
  | succ n ih =>
    simp only [loopN, readFields, Res.bind_bind', hstep, handlerStep]
    refine Res.bind_congr fun key b1 => ?_
    cases h key <;> simp only [Res.bind_bind'] <;> exact Res.bind_congr fun _ _ => ih ..

/-- a msgp-generated map decoder — header, key loop, return — is the model's `readFields` over the handler table `h`, given that
one pass of its `switch` does what `h` says for that key -/
theorem mapDecoder_is_model {σ} (F : Fields σ) (p : Path) (h : Bytes → Option (σ → Bytes → Res σ)) (cases : List Stmt)
    (hstep : ∀ key k s b, execCases F p cases key (fun _ s'' b'' => k s'' b'') 0 s b = handlerStep p (fun t => t) h key k s b)
    (recv : σ) (b : Bytes) :
    run F p [.read .sz .mapHeader, .mapLoop cases, .retOk] recv b = (readMapHeader b).bind fun n b1 => readFields p h n recv b1 := by
  simp only [sk_step]
  refine Res.bind_congr fun n b1 => ?_
  exact (loopN_eq_readFields p (fun t => t) h _ hstep ..).trans (Res.bind_ok_id _)

/- `T_step` and `mapEl_eq_readEntries` quote the `switch` or loop body as the translator prints it in `Gen/Codec.lean` today.
If its output shifts they stay true; what fails is the `…_is_model` theorem they are handed to, where the quoted body no longer
unifies with the regenerated one. -/
theorem Options_step (p : Path) (key : Bytes) (k : Options → Bytes → Res Options) (s : Options) (b : Bytes) :
    execCases OptionsF p [
      .case [115, 105, 122, 101] [.iteElse .nextNil [.read .none .nil, .set .Size .nil] [.ite (.fieldNil .Size) [.set .Size .newInt], .read .SizeDeref .int64]],
      .case [99, 104, 117, 110, 107] [.read .Chunk .str],
      .case [99, 111, 109, 112, 114, 101, 115, 115, 101, 100] [.read .Compressed .str],
      .dflt [.read .none .skip]] key (fun _ s'' b'' => k s'' b'') 0 s b
    = handlerStep p (fun t => t) Options.handlers key k s b := by
  unfold Options.handlers
  -- `*z.Size = …` needs the pointer set: the nil check just before it sees to that
  rcases s with ⟨_ | sz, ch, co⟩ <;>
    simp only [execCases, handlerStep_ite, handlerStep_none, Options.sizeField, OptionsF, sk_step, Res.ite_bind, Option.isNone,
      Option.map] <;> rfl

theorem MessageOptions_UnmarshalMsg_is_model (recv : Options) (b : Bytes) :
    run OptionsF .bytes MessageOptions_UnmarshalMsg recv b = Options.unmarshal .bytes recv b :=
  mapDecoder_is_model _ _ Options.handlers _ (Options_step _) ..
theorem MessageOptions_DecodeMsg_is_model (recv : Options) (b : Bytes) :
    run OptionsF .stream MessageOptions_DecodeMsg recv b = Options.unmarshal .stream recv b :=
  mapDecoder_is_model _ _ Options.handlers _ (Options_step _) ..

theorem Ack_step (p : Path) (key : Bytes) (k : Ack → Bytes → Res Ack) (s : Ack) (b : Bytes) :
    execCases AckF p [.case [97, 99, 107] [.read .Ack .str], .dflt [.read .none .skip]] key (fun _ s'' b'' => k s'' b'') 0 s b
    = handlerStep p (fun t => t) Ack.handlers key k s b := by
  unfold Ack.handlers
  simp only [execCases, handlerStep_ite, handlerStep_none, AckF, sk_step]
  rfl

theorem AckMessage_UnmarshalMsg_is_model (recv : Ack) (b : Bytes) :
    run AckF .bytes AckMessage_UnmarshalMsg recv b = Ack.unmarshal .bytes recv b :=
  mapDecoder_is_model _ _ Ack.handlers _ (Ack_step _) ..
theorem AckMessage_DecodeMsg_is_model (recv : Ack) (b : Bytes) :
    run AckF .stream AckMessage_DecodeMsg recv b = Ack.unmarshal .stream recv b :=
  mapDecoder_is_model _ _ Ack.handlers _ (Ack_step _) ..

theorem HeloOpts_step (p : Path) (key : Bytes) (k : HeloOpts → Bytes → Res HeloOpts) (s : HeloOpts) (b : Bytes) :
    execCases HeloOptsF p [
      .case [110, 111, 110, 99, 101] [.read .Nonce .bin],
      .case [97, 117, 116, 104] [.read .Auth .bin],
      .case [107, 101, 101, 112, 97, 108, 105, 118, 101] [.read .Keepalive .bool],
      .dflt [.read .none .skip]] key (fun _ s'' b'' => k s'' b'') 0 s b
    = handlerStep p (fun t => t) HeloOpts.handlers key k s b := by
  unfold HeloOpts.handlers
  simp only [execCases, handlerStep_ite, handlerStep_none, HeloOptsF, sk_step]
  rfl

theorem HeloOpts_UnmarshalMsg_is_model (recv : HeloOpts) (b : Bytes) :
    run HeloOptsF .bytes HeloOpts_UnmarshalMsg recv b = HeloOpts.unmarshal .bytes recv b :=
  mapDecoder_is_model _ _ HeloOpts.handlers _ (HeloOpts_step _) ..
theorem HeloOpts_DecodeMsg_is_model (recv : HeloOpts) (b : Bytes) :
    run HeloOptsF .stream HeloOpts_DecodeMsg recv b = HeloOpts.unmarshal .stream recv b :=
  mapDecoder_is_model _ _ HeloOpts.handlers _ (HeloOpts_step _) ..

/-- `Helo`: msgp inlines the options decoder; the loop works on the struct behind `z.Options` -/
theorem Helo_step (p : Path) (mt : Bytes) (key : Bytes) (k : Helo → Bytes → Res Helo) (t : HeloOpts) (b : Bytes) :
    execCases HeloF p [
      .case [110, 111, 110, 99, 101] [.read .OptionsNonce .bin],
      .case [97, 117, 116, 104] [.read .OptionsAuth .bin],
      .case [107, 101, 101, 112, 97, 108, 105, 118, 101] [.read .OptionsKeepalive .bool],
      .dflt [.read .none .skip]] key (fun _ s'' b'' => k s'' b'') 0 { mtype := mt, options := some t } b
    = handlerStep p (fun t => ({ mtype := mt, options := some t } : Helo)) HeloOpts.handlers key k t b := by
  unfold HeloOpts.handlers
  simp only [execCases, handlerStep_ite, handlerStep_none, HeloF, sk_step, Option.map]
  rfl

/- `HeloF` stays folded in `Helo_body_is_model`, so that `Helo_loop` still matches; these are its projections -/
theorem HeloF_put_mt (s : Bytes) (m : Helo) : HeloF.put .MessageType (.str s) m = some { m with mtype := s } := rfl
theorem HeloF_put_nil (m : Helo) : HeloF.put .Options .nilPtr m = some { m with options := none } := rfl
theorem HeloF_put_new (o : Option HeloOpts) (m : Helo) : HeloF.put .Options (.hopts o) m = some { m with options := o } := rfl
theorem HeloF_get_options (m : Helo) : HeloF.get .Options m = some (.hopts m.options) := rfl
theorem HeloF_get_mt (m : Helo) : HeloF.get .MessageType m = none := rfl
theorem HeloF_get_sz (m : Helo) : HeloF.get .sz m = none := rfl
theorem HeloF_get_none (m : Helo) : HeloF.get .none m = none := rfl

/-- `loopN_eq_readFields` for the struct behind the `Helo`'s options pointer, as `Helo_body_is_model` rewrites with it: `mt` is
bound there (`readString`'s `bind`), hence `∀ mt` in `hstep`; `step` is as `simp` leaves `.mapLoop`, eta-reduced -/
theorem Helo_loop (p : Path) (cases : List Stmt)
    (hstep : ∀ mt key k t b, execCases HeloF p cases key (fun _ s'' b'' => k s'' b'') 0 { mtype := mt, options := some t } b
      = handlerStep p (fun t => ({ mtype := mt, options := some t } : Helo)) HeloOpts.handlers key k t b)
    (mt : Bytes) (n : Nat) (k : Helo → Bytes → Res Helo) (t : HeloOpts) (b : Bytes) :
    loopN p (fun key k' s' b' => execCases HeloF p cases key (fun _ => k') 0 s' b') n k { mtype := mt, options := some t } b
      = (readFields p HeloOpts.handlers n t b).bind fun t' b' => k { mtype := mt, options := some t' } b' :=
  loopN_eq_readFields p (fun t => { mtype := mt, options := some t }) HeloOpts.handlers _ (hstep mt) n k t b

theorem Helo_body_is_model (p : Path) (recv : Helo) (b : Bytes) :
    run HeloF p Helo_UnmarshalMsg recv b = Helo.unmarshal p recv b := by
  rcases recv with ⟨mt0, _ | o⟩ <;>
    simp only [Helo_UnmarshalMsg, Helo.unmarshal, HeloOpts.unmarshal, sk_step, HeloF_put_mt, HeloF_put_nil, HeloF_put_new,
      HeloF_get_options, Helo_loop p _ (Helo_step p), Option.getD, Option.isNone, if_true, if_false, Bool.false_eq_true]

theorem Helo_UnmarshalMsg_is_model (recv : Helo) (b : Bytes) :
    run HeloF .bytes Helo_UnmarshalMsg recv b = Helo.unmarshal .bytes recv b := Helo_body_is_model ..
theorem Helo_DecodeMsg_is_model (recv : Helo) (b : Bytes) :
    run HeloF .stream Helo_DecodeMsg recv b = Helo.unmarshal .stream recv b := Helo_body_is_model ..

theorem resizeTo_length (n : Nat) (l : List EntryExt) : (resizeTo n l).length = n := by
  rw [resizeTo, List.length_append, List.length_take, List.length_replicate]; omega

theorem mapEl_eq_readEntries (p : Path) (l : List EntryExt) (b : Bytes) :
    mapEl p [.read .sz .arrayHeader, .ite (.szNe 2) [.retErr], .read .Timestamp .eventTime, .read .Record .intf] l b
      = readEntries p l.length b := by
  induction l generalizing b with
  | nil => rfl
  | cons e es ih =>
    -- one pass of the body is the model's entry decoder, which ignores what the element held
    simp only [mapEl, readEntries, List.length_cons, EntryExtF, EntryExt.unmarshal, sk_step, Res.ite_bind, ih]

theorem EntryList_body_is_model (p : Path) (recv : List EntryExt) (b : Bytes) :
    runL p EntryList_UnmarshalMsg recv b = EntryList.unmarshal p b := by
  simp only [EntryList_UnmarshalMsg, execL, EntryList.unmarshal, mapEl_eq_readEntries, resizeTo_length, sk_step, Res.bind_ok_id]

theorem EntryList_UnmarshalMsg_is_model (recv : List EntryExt) (b : Bytes) :
    runL .bytes EntryList_UnmarshalMsg recv b = EntryList.unmarshal .bytes b := EntryList_body_is_model ..
theorem EntryList_DecodeMsg_is_model (recv : List EntryExt) (b : Bytes) :
    runL .stream EntryList_DecodeMsg recv b = EntryList.unmarshal .stream b := EntryList_body_is_model ..

end FV.Tie
