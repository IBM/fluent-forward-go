import FluentVerif.Gen.Consts
/-! Obligation over the regenerated list of allocation sites (C10, memory clause): the only `make` calls
of `fluent/protocol` whose size is neither a constant nor a `len(…)` of existing data are the two the
model counts (`EntryList.alloc`, `Proto/Alloc.lean`).  A new site sized from the input breaks this
obligation; the model's figures would no longer account for the package's requests. -/
namespace FV.Tie

theorem count_sized_makes : FV.Gen.Consts.protocolCountSizedMakes =
    ["transport_gen.go:EntryList.DecodeMsg:EntryList:zb0002",
     "transport_gen.go:EntryList.UnmarshalMsg:EntryList:zb0002"] := rfl

end FV.Tie
