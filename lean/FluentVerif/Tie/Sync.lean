import FluentVerif.Gen.Sync
import FluentVerif.Conc.Walk
import FluentVerif.Gen.Consts
import FluentVerif.Proto.Types
/-! Obligations over the regenerated facts (`Gen/*.lean`), re-checked on every run.  Each is an
evaluation in the kernel over the tables the translator produced from /repo's working tree; the graphs go
through `checkFast` (`Conc/Walk.lean`): evaluating `check` itself is all list indexing. -/
namespace FV.Tie
open FV.Lk FV.Gen

/-- TCP client: every access to `session` / `TransportPhase` / the connection is covered by its
access policy, on every path of every exported method -/
theorem client_lockset : check client = true := check_of_checkFast (by decide +kernel)

/-- websocket client: every access to `session` and `err` is under its lock -/
theorem wsClient_lockset : check wsClient = true := check_of_checkFast (by decide +kernel)

/-- websocket connection: `connState` under `stateLock`, every `Conn.WriteMessage` under `writeLock` -/
theorem wsConn_lockset : check wsConn = true := check_of_checkFast (by decide +kernel)

/-- the frame-reading methods of the underlying connection (`ReadMessage`, `NextReader`, `ReadJSON`)
are called only from the read loop … -/
theorem readMessage_only_in_readLoop : wsConn_call_wsread = ["go runReadLoop"] := rfl
/-- … which is spawned only by `Listen` -/
theorem readLoop_spawned_only_by_Listen : wsConn_spawn_runReadLoop = ["Listen"] := rfl
/- every call of a frame-writing method of the underlying connection (`WriteMessage`, `NextWriter`,
`WriteControl`, `WritePreparedMessage`, `WriteJSON`) is a `write wswrite` node of the graph, wherever it
is: `wsConn_lockset` covers them all, no single-site obligation is needed. -/

/-- nothing else in the `ws` package — the constructor, the handler closures it installs, methods of other types —
calls a frame-writing or frame-reading method of the underlying connection: every such call is a node of the graph
`wsConn_lockset` covers -/
theorem wire_calls_only_in_methods : wsConn_outside_wire = [] := rfl

/-- the admission gate of `CloseWithMsg` is the pair the policy puts under `closeLock`: the `Closed()` test and the
clearing of the Open bit (both are nodes of the graph, so `wsConn_lockset` demands `closeLock` around each) … -/
theorem close_gate_sites : wsConn_gate_closeGate = ["CloseWithMsg:Closed", "CloseWithMsg:unsetConnState"] := rfl
/-- … and that of `Listen` the pair under `listenLock` -/
theorem listen_gate_sites : wsConn_gate_listenGate = ["Listen:hasConnState", "Listen:setConnState"] := rfl
/-- the state word is only ever changed by setting or clearing bits inside one `stateLock` section: no method stores a
whole value computed from an earlier snapshot -/
theorem connState_no_plain_store : wsConn_plainstore_connState = [] := rfl

/-! protocol constants of the source equal the model's -/
theorem const_size : Consts.OptSize = kSize := rfl
theorem const_chunk : Consts.OptChunk = kChunk := rfl
theorem const_compressed : Consts.OptCompressed = kCompressed := rfl
theorem const_gzip : Consts.OptValGZIP = vGzip := rfl
theorem const_exttype : Consts.extensionType = 0 := rfl
theorem const_etlen : Consts.eventTimeLen = 8 := rfl
theorem const_helo : Consts.MsgTypeHelo = [0x48, 0x45, 0x4c, 0x4f] := rfl
theorem const_ping : Consts.MsgTypePing = [0x50, 0x49, 0x4e, 0x47] := rfl
theorem const_pong : Consts.MsgTypePong = [0x50, 0x4f, 0x4e, 0x47] := rfl

end FV.Tie
