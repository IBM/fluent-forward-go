import FluentVerif.Tie.Codec
import FluentVerif.Tie.CodecEnc
import FluentVerif.Props.C01
import FluentVerif.Props.C02
import FluentVerif.Props.C10
import FluentVerif.Props.C18
/-! # The codec property theorems, restated for the regenerated bodies (`Message`: both decoder paths, the slice encoder)

`Tie/Codec.lean` and `Tie/CodecEnc.lean` prove that running the regenerated decoder and encoder bodies is `Message.unmarshal` /
`Message.marshal`.  Here C01, C02, C10, C13 and C18 are restated for `Message` with `Sk.run … Gen.Codec.Message_…` and
`Sk.runEnc … Gen.Codec.Message_MarshalMsg` in place of the model functions: what the source — as re-read on this run — does.  (The
other twelve types go the same way through their `…_is_model` theorems; `Message` is spelled out as the pattern.) -/
namespace FV.Tie
open FV.Sk FV.Gen.Codec

/-- the decoder body of the path: `UnmarshalMsg` for the slice path, `DecodeMsg` for the stream path -/
def Message_dec : Path → List Stmt
  | .bytes => Message_UnmarshalMsg
  | .stream => Message_DecodeMsg

theorem Message_dec_is_model (p : Path) (recv : Message) (b : Bytes) :
    run MessageF p (Message_dec p) recv b = Message.unmarshal p recv b := by
  cases p
  · exact Message_UnmarshalMsg_is_model recv b
  · exact Message_DecodeMsg_is_model recv b

/-- the bytes a run of the regenerated encoder body appended to nothing are the model's encoding -/
theorem Message_enc_ok (m : MessageSrc) (e : Bytes) (he : runEnc MessageSrc.get Message_MarshalMsg m [] = .ok e) :
    Message.marshal m.tag m.ts m.record m.options = some e := by
  rw [Message_MarshalMsg_is_model] at he
  cases hm : Message.marshal m.tag m.ts m.record m.options <;> rw [hm] at he <;> cases he
  rfl

/-- **C01 over the regenerated bodies**: what `MarshalMsg`'s body appends for a representable message, the decoder body of either
path reads back as exactly that message, into any receiver, leaving exactly what follows -/
theorem C01_Message_regenerated (p : Path) (recv : Message) (m : MessageSrc) (e x : Bytes)
    (htag : lenOK m.tag) (hts : inInt64 m.ts) (hrec : m.record.WF) (hopts : optPtrWF m.options)
    (he : runEnc MessageSrc.get Message_MarshalMsg m [] = .ok e) :
    run MessageF p (Message_dec p) recv (e ++ x)
      = .ok { tag := m.tag, ts := m.ts, record := m.record.toObj, options := m.options } x := by
  rw [Message_dec_is_model]
  exact C01_Message p recv m.tag m.ts m.record m.options e x htag hts hrec hopts (Message_enc_ok m e he)

/-- **C13**: a successful run of the decoder body consumes exactly one msgpack value -/
theorem C13_Message_regenerated (p : Path) (recv : Message) (b : Bytes) (v r) :
    run MessageF p (Message_dec p) recv b = .ok v r → Reads1 b r := by
  rw [Message_dec_is_model]; exact C13_Message p recv b v r

/-- **C18**: the result does not depend on what the receiver held -/
theorem C18_Message_regenerated (p : Path) (recv : Message) (b : Bytes) :
    run MessageF p (Message_dec p) recv b = run MessageF p (Message_dec p) {} b := by
  rw [Message_dec_is_model, Message_dec_is_model]; exact C18_Message p recv b

/-- **C10**: no input makes the decoder body panic (and the interpreter's own panics — an unknown statement, a field of another type, a
missing return — are excluded with it) -/
theorem C10_Message_regenerated (p : Path) (recv : Message) (b : Bytes) : (run MessageF p (Message_dec p) recv b).NoPanic := by
  rw [Message_dec_is_model]; exact C10_noPanic_Message p recv b

/-- **C02 over the regenerated `MarshalMsg` body**: what it emits for a representable message with a map record is exactly one msgpack
value that satisfies the Forward v1 grammar for Message mode -/
theorem C02_Message_regenerated (tag : Bytes) (ts : Int) (kvs : GoKVs) (opts : Option Options) (e : Bytes)
    (htag : lenOK tag) (hts : inInt64 ts) (hrec : (GoVal.map kvs).WF) (hopts : optPtrWF opts)
    (he : runEnc MessageSrc.get Message_MarshalMsg ⟨tag, ts, .map kvs, opts⟩ [] = .ok e) :
    ∃ o, parse e = some (o, []) ∧ Spec.isMessage o = true :=
  C02_Message tag ts kvs opts e htag hts hrec hopts (Message_enc_ok ⟨tag, ts, .map kvs, opts⟩ e he)

end FV.Tie
