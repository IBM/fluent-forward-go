import FluentVerif.Client.Tcp
import FluentVerif.Gen.Handshake
/-! # The handshake helpers, `makeChunkID` and the `Chunk()` methods are what the source says now (C05, C12) -/
namespace FV.Tie
open FV.Tcp FV.Sk.Hs

variable (H : Bytes → Bytes)

/-- `computeHexDigest`, as the regenerated body computes it -/
def digestSem (salt hostname nonce key : Bytes) : Bytes :=
  (runHD H salt hostname nonce key Gen.Handshake.computeHexDigest {}).getD []

theorem computeHexDigest_is_model (salt hostname nonce key : Bytes) :
    runHD H salt hostname nonce key Gen.Handshake.computeHexDigest {} = some (hexDigest H salt hostname nonce key) := by
  simp [Gen.Handshake.computeHexDigest, runHD, hexDigest, List.append_assoc]

theorem digestSem_eq (salt hostname nonce key : Bytes) : digestSem H salt hostname nonce key = hexDigest H salt hostname nonce key := by
  simp [digestSem, computeHexDigest_is_model]

/-- `validateDigest`, as the regenerated body computes it -/
def validateSem (received key nonce salt hostname : Bytes) : Option Bool :=
  runVD (digestSem H) received key nonce salt hostname Gen.Handshake.validateDigest none

theorem validateDigest_is_model (received key nonce salt hostname : Bytes) :
    validateSem H received key nonce salt hostname = some (received == hexDigest H salt hostname nonce key) := by
  simp only [validateSem, Gen.Handshake.validateDigest, runVD, digestSem_eq]
  by_cases h : received = hexDigest H salt hostname nonce key <;> simp [h]

theorem ValidatePingDigest_is_model (p : Ping) (key nonce : Bytes) :
    runVPing (validateSem H) p key nonce Gen.Handshake.ValidatePingDigest = some (validatePing H p key nonce) := by
  simp [Gen.Handshake.ValidatePingDigest, runVPing, validateDigest_is_model, validatePing]

theorem ValidatePongDigest_is_model (p : Pong) (key nonce salt : Bytes) :
    runVPong (validateSem H) p key nonce salt Gen.Handshake.ValidatePongDigest = some (validatePong H p key nonce salt) := by
  simp [Gen.Handshake.ValidatePongDigest, runVPong, validateDigest_is_model, validatePong]

/-- `NewPing(c.Hostname, c.AuthInfo.SharedKey, salt, nonce)` is the model's PING -/
theorem NewPing_is_model (cfg : Cfg) (salt nonce : Bytes) :
    Gen.Handshake.NewPing = [.retMakePing] ∧
    runMkPing (digestSem H) cfg.hostname (cfg.sharedKey.getD []) salt nonce none Gen.Handshake.makePing none none
      = some (pingMsg H cfg salt nonce) := by
  refine ⟨rfl, ?_⟩
  simp [Gen.Handshake.makePing, runMkPing, pingMsg, digestSem_eq, hexDigest]

theorem NewPingWithAuth_shape : Gen.Handshake.NewPingWithAuth = [.retMakePingAuth] := rfl

theorem NewPong_is_model (auth : Bool) (reason hostname key nonce : Bytes) (ping : Ping) :
    runNewPong (digestSem H) auth reason hostname key nonce ping Gen.Handshake.NewPong none none
      = some (newPong H auth reason hostname key nonce ping) := by
  simp [Gen.Handshake.NewPong, runNewPong, newPong, digestSem_eq]

/-- `makeChunkID`, as the regenerated body computes it -/
theorem makeChunkID_is_model (draw : Bytes) : runMkChunk draw Gen.Handshake.makeChunkID none = some (FV.makeChunkID draw) := by
  simp [Gen.Handshake.makeChunkID, runMkChunk, FV.makeChunkID]

theorem Chunk_is_model (opts : Option Options) (draw : Bytes) :
    runChunk (runMkChunk draw Gen.Handshake.makeChunkID none) Gen.Handshake.Message_Chunk { opts := opts } = some (chunkCall opts draw) := by
  simp only [makeChunkID_is_model, Gen.Handshake.Message_Chunk, runChunk, chunkCall]
  by_cases h : (opts.getD {}).chunk = [] <;> simp [h]

/-- the four `Chunk()` methods have the same body -/
theorem Chunk_bodies_equal : Gen.Handshake.MessageExt_Chunk = Gen.Handshake.Message_Chunk ∧ Gen.Handshake.Forward_Chunk = Gen.Handshake.Message_Chunk
    ∧ Gen.Handshake.Packed_Chunk = Gen.Handshake.Message_Chunk := ⟨rfl, rfl, rfl⟩

end FV.Tie
