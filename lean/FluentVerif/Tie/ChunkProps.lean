import FluentVerif.Tie.Chunk
import FluentVerif.Props.C10
import FluentVerif.Props.C11
/-! # C11 and C10 restated for the regenerated body of `GetChunk` -/
namespace FV.Tie
open FV.Spec FV.Sk.Ch FV.Gen.Chunk

/-- **C11 over the regenerated `GetChunk`**: on every well-formed message of a Forward mode (without a token in the ext32 format, on
which msgp's stream `Skip` fails — open finding C11-ext32-skip) running the regenerated body agrees with what full decoding finds -/
theorem C11_GetChunk_regenerated (b : Bytes) (o : Obj) (h : parse b = some (o, [])) (hw : WellFormedMode o)
    (hx : hasExt32 b = false) :
    Agrees (runG kChunk GetChunk b) (chunkOf o) := by
  rw [GetChunk_is_model]; exact C11_agree b o h hw hx

/-- **C10 over the regenerated `GetChunk`**: no input makes it panic -/
theorem C10_GetChunk_regenerated (b : Bytes) : (runG kChunk GetChunk b).NoPanic := by
  rw [GetChunk_is_model]; exact C10_noPanic_getChunk b

end FV.Tie
