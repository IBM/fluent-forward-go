import FluentVerif.Gen.Client
import FluentVerif.Client.Helpers
import FluentVerif.Client.TcpLemmas
/-! # The methods of the TCP client are what the source says now

`Gen/Client.lean` holds the bodies of `Client.Send`, `SendRaw`, `checkAck`, `writeAll`, `Connect`, `Disconnect`, `Reconnect`,
`connect`, `disconnect`, `TransportPhase` and `Handshake` as regenerated from /repo's working tree on every run
(`translator/client.go`).  Running them (`Sk.Cl.runC`) on any client state, under any configuration and any behaviour of the
peer, the factory and the network, gives exactly the result and the events of the sequential client model's `step`
(`Client/Tcp.lean`) — the definitions C04, C05, C06, C09, C14 are proved about (C08 and C10 rest on `C09_ok_all` / `C09_prefix` and on
`C14_no_panic` / `C05_accept_iff`). -/
namespace FV.Tie
open FV.Tcp FV.Sk.Cl FV.Gen.Client

variable (H : Bytes → Bytes)

/-! The sequencing equations of `cexecs` for a fully applied term (`Sk/Interp.lean` says why).  The ties that need it run their body
once (`simp only` with these two and `cexec`) and then split, in the body's order, on what the body tests; with the state given by
its fields both sides compute, and the leaves are `rfl`; the small ones are `rfl` after the state is given by its fields.  (`simp`
at a leaf would be dear: where a `match` is stuck it tries the matcher's equations, each with a side condition that fails.)  The two
equations are proved by plain `rfl`, not by the `(rfl)` `Sk/Interp.lean` asks for, and deliberately: what the kernel has to unfold
again for these interpreters is little, and `(rfl)`, which makes every use an explicit rewrite step, is dearer to check. -/
theorem cexecs_nil (cfg : Cfg) (i : In) (c : Callees) (k : L → R) (l : L) : cexecs H cfg i c [] k l = k l := rfl
theorem cexecs_cons (cfg : Cfg) (i : In) (c : Callees) (st rest) (k : L → R) (l : L) :
    cexecs H cfg i c (st :: rest) k l = cexec H cfg i c st (cexecs H cfg i c rest k) l := rfl

/-- the methods the bodies call, computed from their own regenerated bodies -/
def callees (cfg : Cfg) (i : In) : Callees where
  checkAck := fun l => cexecs H cfg i {} Client_checkAck (fun l => (l.st, .panic)) l
  connect := fun l => cexecs H cfg i {} Client_connect (fun l => (l.st, .panic)) l
  disconnect := fun l => cexecs H cfg i {} Client_disconnect (fun l => (l.st, .panic)) l

/-- `writeAll` is one `Write`, and a short write without an error is made an error.  This pins the body; the three statements are
not run: `writeAllThen` / `retWriteAll` take `doWrite` for the call -/
theorem writeAll_shape : Gen.Client.writeAll = [.connWrite, .shortIsError, .retErrVar] := rfl

/-- `enc = none` in the model: `Chunk()` failed or returned the empty id (it is called, and its result looked at, only when acks are
required), or the encoder failed -/
def encOf (cfg : Cfg) (i : In) : Option Bytes := if cfg.requireAck && (i.chunkErr || i.chunk = []) then none else i.encoding

/-- the two statements of `Send` that `encOf` stands for -/
theorem cexecs_encOf (cfg : Cfg) (i : In) (c : Callees) (rest : List CStmt) (k : L → R) (l : L) :
    cexecs H cfg i c (.ifRequireAck [.chunk, .ifChunkEmpty [.retErrNew]] :: .encode :: rest) k l =
      match encOf cfg i with
      | some e => cexecs H cfg i c rest k { l with buf := some e }
      | none => (l.st, .err) := by
  simp only [cexecs_cons, cexecs_nil, cexec, encOf]
  cases cfg.requireAck <;> cases i.chunkErr <;> rcases i.chunk with _ | ⟨x, xs⟩ <;> rfl

/-- `checkAck` on a live session is the tail of `Tcp.send`: the read deadline if a timeout is configured, then the ack test -/
theorem checkAck_is_model (cfg : Cfg) (i : In) (l : L) (id : Nat) (tp : Bool) (hs : l.st.session = some (id, tp)) :
    (callees H cfg i).checkAck l =
      let s2 := if cfg.timeout then l.st.emit (.deadline id) else l.st
      match Ack.unmarshal .stream {} i.resp with
      | .ok a _ => if a.ack = i.chunk then (s2, .ok) else (s2, .err)
      | _ => (s2, .err) := by
  unfold callees
  simp only [Client_checkAck, cexecs_cons, cexecs_nil, cexec, hs]
  rcases Ack.unmarshal .stream {} i.resp with ⟨a, _⟩ | _ | _
  · -- the body asks `ack.Ack != chunk`, the model `a.ack = chunk`
    cases cfg.timeout <;> exact ite_not ..
  · cases cfg.timeout <;> rfl
  · cases cfg.timeout <;> rfl

theorem Client_Send_is_model (cfg : Cfg) (i : In) (s : St) :
    runC H cfg i (callees H cfg i) Client_Send s = Tcp.send cfg s (encOf cfg i) i.chunk i.fault i.resp := by
  -- `↓`: before `cexecs_cons`, which matches the same term, takes the two statements apart
  simp only [runC, Client_Send, ↓cexecs_encOf, cexecs_cons, cexec, Tcp.send]
  rcases s with ⟨_ | ⟨id, _ | _⟩, conns, log⟩
  · rfl
  · rfl
  · rcases encOf cfg i with _ | e
    · rfl
    · dsimp only [Option.isNone]
      rw [checkAck_is_model H cfg i _ id true rfl]
      rfl

/-- the repaired `Send`: with acks required, a message whose chunk id is empty is refused before anything is encoded or written
(`C04_empty_id_witness` shows what would happen otherwise) -/
theorem Client_Send_empty_chunk_refused (cfg : Cfg) (i : In) (s : St) (hack : cfg.requireAck = true) (hk : i.chunk = []) :
    runC H cfg i (callees H cfg i) Client_Send s = (s, .err) := by
  rw [Client_Send_is_model, encOf, hack, hk]
  simp only [Bool.true_and, Bool.or_true, decide_true, if_true]
  exact send_none ..

theorem Client_SendRaw_is_model (cfg : Cfg) (i : In) (s : St) :
    runC H cfg i (callees H cfg i) Client_SendRaw s = Tcp.sendRaw s i.raw i.fault := by
  rcases s with ⟨_ | ⟨id, _ | _⟩, conns, log⟩ <;> rfl

/-- `connect` needs nothing of the caller's locals but the client state -/
theorem connect_is_model (cfg : Cfg) (i : In) (l : L) :
    (callees H cfg i).connect l = Tcp.connect cfg l.st i.dialOk i.closeErr := by
  unfold callees
  simp only [Client_connect, cexecs_cons, cexecs_nil, cexec, Tcp.connect]
  cases cfg.sharedKey <;> rfl

/-- `disconnect`, called with fresh locals (its result is the named `err`, which only `Close` sets) -/
theorem disconnect_is_model (cfg : Cfg) (i : In) (s : St) :
    (callees H cfg i).disconnect { st := s } = Tcp.disconnect s := by
  rcases s with ⟨_ | ⟨id, tp⟩, conns, log⟩ <;> rfl

theorem Client_Connect_is_model (cfg : Cfg) (i : In) (s : St) :
    runC H cfg i (callees H cfg i) Client_Connect s = step H cfg s (.connect i.dialOk i.closeErr) := by
  simp only [runC, Client_Connect, cexecs_cons, cexec, connect_is_model, step]

theorem Client_Disconnect_is_model (cfg : Cfg) (i : In) (s : St) :
    runC H cfg i (callees H cfg i) Client_Disconnect s = step H cfg s .disconnect := by
  simp only [runC, Client_Disconnect, cexecs_cons, cexec, disconnect_is_model, step]

theorem Client_Reconnect_is_model (cfg : Cfg) (i : In) (s : St) :
    runC H cfg i (callees H cfg i) Client_Reconnect s = step H cfg s (.reconnect i.dialOk i.closeErr) := by
  simp only [runC, Client_Reconnect, cexecs_cons, cexec, connect_is_model, disconnect_is_model, step]

theorem Client_TransportPhase_is_model (cfg : Cfg) (i : In) (s : St) :
    runC H cfg i (callees H cfg i) Client_TransportPhase s = step H cfg s .transportPhase := by
  rcases s with ⟨_ | ⟨id, tp⟩, conns, log⟩ <;> rfl

theorem Client_Handshake_is_model (cfg : Cfg) (i : In) (s : St) :
    runC H cfg i (callees H cfg i) Client_Handshake s = Tcp.handshake H cfg s i.helo i.salt i.pong i.fault := by
  simp only [runC, Client_Handshake, cexecs_cons, cexec, Tcp.handshake]
  rcases s with ⟨_ | ⟨id, tp⟩, conns, log⟩
  · rfl
  · rcases Helo.unmarshal .stream {} i.helo with ⟨⟨mt, _ | ho⟩, rest0⟩ | _ | _
    · rfl
    · dsimp only [Option.isNone, Option.bind]
      rcases doWrite (pingMsg H cfg i.salt ho.nonce).marshal i.fault with ⟨acc, _ | _ | _⟩
      · -- `if !pong.AuthResult` and `ValidatePongDigest` together are `pongAccepted`
        rcases Pong.unmarshal .stream {} (rest0 ++ i.pong) with ⟨⟨pm, _ | _, pr, ph, pd⟩, _⟩ | _ | _ <;> rfl
      · rfl
      · rfl
    · rfl
    · rfl

/-! ### the `Send*` helpers: each builds its message with one constructor from its own arguments and hands it to `Send` -/

/-- the constructor the helper model (`Client/Helpers.lean`, `Helper.wire`) uses for each helper, and whether it can fail -/
def Helper.goShape : Helper → String × String × Bool
  | .message _ _ => ("SendMessage", "NewMessage", false)
  | .messageExt _ _ => ("SendMessageExt", "NewMessageExt", false)
  | .forward _ _ => ("SendForward", "NewForwardMessage", false)
  | .packed _ _ => ("SendPacked", "NewPackedForwardMessage", true)
  | .compressed _ _ => ("SendCompressed", "NewCompressedPackedForwardMessage", true)
  | .packedBytes _ _ => ("SendPackedFromBytes", "NewPackedForwardMessageFromBytes", false)
  | .compressedBytes _ _ => ("SendCompressedFromBytes", "NewCompressedPackedForwardMessageFromBytes", true)

/-- every helper of the model is, in the source as it is now, `msg[, err] := protocol.<that constructor>(<its arguments>)` followed
by `Send(msg)` (skipped when the constructor failed) -/
theorem helpers_match_model (h : Helper) : Helper.goShape h ∈ Gen.Client.clientHelpers := by
  cases h <;> simp [Helper.goShape, clientHelpers]

/-- and the source has no other `Send*` helper: as many as `Helper` has constructors -/
theorem helpers_all_modelled : Gen.Client.clientHelpers.length = 7 := rfl

end FV.Tie
