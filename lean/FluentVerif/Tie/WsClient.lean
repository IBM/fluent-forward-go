import FluentVerif.Gen.WsClient
/-! # The methods of the websocket client are what the source says now

The regenerated bodies of `WSClient.connect`, `Connect`, `Disconnect`, `Reconnect`, `Send`, `SendRaw` (`Gen/WsClient.lean`), run on
any state of the sequential websocket client model under any outcome of the factory, the encoder and the frame write, give exactly
the result and the state of the model's `step` (`Client/Ws.lean`) — the definitions C09 and C17 are proved about. -/
namespace FV.Tie
open FV.WsC FV.Sk.WsCl FV.Gen.WsClient

/-! the sequencing equation of `wexecs` for a fully applied term (no block of these bodies ends without a `return`, so the one for
`[]` is not needed), by plain `rfl` for the reason given in `Tie/Client.lean`; the ties go as they do there -/
theorem wexecs_cons (i : In) (c : St → St × Bool) (st rest) (k : W → R) (w : W) :
    wexecs i c (st :: rest) k w = wexec i c st (wexecs i c rest k) w := rfl

/-- `connect()`, as the regenerated body computes it -/
def wsConnectSem (i : In) (s : St) : St × Bool :=
  (runW i (fun s => (s, false)) WSClient_connect s).getD (s, false)

theorem WSClient_connect_is_model (i : In) (s : St) : wsConnectSem i s = WsC.connect s i.dialOk i.newConnOk := by
  simp only [wsConnectSem, runW, WSClient_connect, wexecs_cons, wexec, WsC.connect]
  cases i.dialOk <;> cases i.newConnOk <;> rfl

def outOf (ok : Bool) : Out := if ok then .ok else .err

theorem WSClient_Connect_is_model (i : In) (s : St) :
    (runW i (wsConnectSem i) WSClient_Connect s).map (fun r => (r.1, outOf r.2)) = some (step s (.connect i.dialOk i.newConnOk)) := by
  simp only [runW, WSClient_Connect, wexecs_cons, wexec, step, WSClient_connect_is_model]
  cases s.session.isSome <;> rfl

theorem WSClient_Disconnect_is_model (i : In) (s : St) :
    (runW i (wsConnectSem i) WSClient_Disconnect s).map (fun r => (r.1, outOf r.2)) = some (step s .disconnect) := by
  rfl

theorem WSClient_Reconnect_is_model (i : In) (s : St) :
    (runW i (wsConnectSem i) WSClient_Reconnect s).map (fun r => (r.1, outOf r.2)) = some (step s (.reconnect i.dialOk i.newConnOk)) := by
  simp only [runW, WSClient_Reconnect, wexecs_cons, wexec, step, WSClient_connect_is_model]
  cases (WsC.connect (closeCurrent s) i.dialOk i.newConnOk).2 <;> rfl

theorem WSClient_Send_is_model (i : In) (s : St) :
    (runW i (wsConnectSem i) WSClient_Send s).map (fun r => (r.1, outOf r.2)) = some (step s (.send i.enc i.writeFails)) := by
  simp only [runW, WSClient_Send, wexecs_cons, wexec, step, writeFrame]
  rcases s with ⟨sess, _ | _, conns⟩
  · rcases sess with _ | id
    · -- no session: the body says so before it encodes, the model after; an error either way
      rcases i.enc with _ | e <;> rfl
    · dsimp only
      rcases i.enc with _ | e <;> cases isOpen ⟨some id, false, conns⟩ id <;> cases i.writeFails <;> rfl
  · rfl

theorem WSClient_SendRaw_is_model (i : In) (s : St) :
    (runW i (wsConnectSem i) WSClient_SendRaw s).map (fun r => (r.1, outOf r.2)) = some (step s (.sendRaw i.raw i.writeFails)) := by
  simp only [runW, WSClient_SendRaw, wexecs_cons, wexec, step, writeFrame]
  rcases s with ⟨sess, _ | _, conns⟩
  · rcases sess with _ | id
    · rfl
    · dsimp only
      cases isOpen ⟨some id, false, conns⟩ id <;> cases i.writeFails <;> rfl
  · rfl

end FV.Tie
