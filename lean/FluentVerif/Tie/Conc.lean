import FluentVerif.Tie.Sync
import FluentVerif.Conc.Sections
/-! # C08 / C14 / C16 / C17 — the schedule halves, over the regenerated control-flow graphs

`check_sound` and `critical_section_exclusive` (proved once, for all programs) are instantiated
with the graphs the translator regenerates from /repo on every run (`Gen.client`, `Gen.wsClient`,
`Gen.wsConn`) and the discharged obligations of `Tie/Sync.lean`.  Schedules are arbitrary lists of
(goroutine, choice) pairs: any number of goroutines, any interleaving, any number of calls each.  Numbers as in
`Conc/Protect.lean`: locks 0 = sessionLock, 1 = ackLock (the send mutex), 5 = writeLock; variables 2 = wire, 5 = wswrite. -/
namespace FV.Tie
open FV.Lk FV.Gen

/-- **C14 (race freedom)**: under every schedule no two goroutines are simultaneously at conflicting
accesses to `session`, `TransportPhase` or the connection in any methods of `Client` -/
theorem C14_race_free (sched : List (Tid × Nat)) (t1 t2 : Tid) (hne : t1 ≠ t2) (pc1 pc2 : Nat) (v : Var) (w2 : Bool)
    (h1 : (run client init sched).pc t1 = some pc1) (h2 : (run client init sched).pc t2 = some pc2)
    (a1 : accessOf client pc1 = some (v, true)) (a2 : accessOf client pc2 = some (v, w2)) : False :=
  check_sound client client_lockset sched t1 t2 hne pc1 pc2 v w2 h1 h2 a1 a2

/-- every use of the connection by `Client` happens holding the send mutex or the session lock
exclusively: both alternatives of the wire's policy demand one of them, and the regenerated graph passes `check` -/
theorem C08_wire_under_mutex : allUnder client 2 1 0 = true := allUnder_of_check client_lockset (by decide)

/-- **C08**: the uses of the connection by different sends never overlap: while one goroutine is
anywhere inside its send-mutex section (the write of the complete encoding and, with RequireAck,
the whole ack exchange), no other goroutine is inside one — under every schedule, for any number of
senders.  With C09 (one write of the complete encoding per send, inside that section) the wire is
the concatenation of the complete encodings in the order the sections were entered, and at most one
send is waiting for an ack at any time. -/
theorem C08_sections_exclusive (sched : List (Tid × Nat)) (t1 t2 : Tid) (hne : t1 ≠ t2) (pc1 pc2 : Nat)
    (ls1 ls2 : LockSet) (m : Mode)
    (h1 : (run client init sched).pc t1 = some pc1) (h2 : (run client init sched).pc t2 = some pc2)
    (a1 : client.annot[pc1]? = some ls1) (a2 : client.annot[pc2]? = some ls2)
    (e1 : (1, Mode.ex) ∈ ls1) (e2 : (1, m) ∈ ls2) : False :=
  critical_section_exclusive client client_lockset sched t1 t2 hne pc1 pc2 ls1 ls2 1 m h1 h2 a1 a2 e1 e2

/-- **C08, as a statement about the sequence of events**: take any schedule `A` after which goroutine `t`
is inside a send section (it holds the send mutex exclusively and, like every sender, the session lock
shared), and any continuation `B` during which `t` does not leave the section (it executes neither the
mutex unlock nor the session-lock release).  Then every use of the connection that happens during `B`, by
any of any number of goroutines, is `t`'s own: nothing is written or read on the wire between the first
and the last byte of `t`'s message and its ack exchange.  With C09 (the section writes the complete
encoding) the wire is a concatenation of whole messages. -/
theorem C08_send_section_uninterrupted (A B : List (Tid × Nat)) (t : Tid)
    (h1 : (run client init A).locks.exH 1 = some t) (h0 : t ∈ (run client init A).locks.shH 0)
    (hno : ∀ e ∈ log client (run client init A) B, e.1 = t →
      opAt client e.2 ≠ some (.unlock 1) ∧ opAt client e.2 ≠ some (.runlock 0))
    (e : Tid × Nat) (he : e ∈ log client (run client init A) B) (w : Bool)
    (ha : accessOf client e.2 = some (2, w)) : e.1 = t :=
  section_uninterrupted client client_lockset 2 1 0 C08_wire_under_mutex A B t h1 h0 hno e he w ha

/-- the hypotheses of `C08_send_section_uninterrupted` are met on the regenerated graph: the translator's witness
schedule brings goroutine 0 to a use of the connection while it holds the send mutex exclusively and the session
lock shared (re-derived from the source on every run, checked here by evaluation) -/
theorem C08_section_reachable :
    (run client init client_witness_sendSection).locks.exH 1 = some 0 ∧
    (run client init client_witness_sendSection).locks.shH 0 = [0] ∧
    (((run client init client_witness_sendSection).pc 0).bind (accessOf client)).map (·.1) = some 2 := by decide +kernel

/-- every frame-writing call of `ws.connection` holds `writeLock` exclusively -/
theorem C16_writes_under_writeLock : allUnder wsConn 5 5 5 = true := allUnder_of_check wsConn_lockset (by decide)

/-- **C16, as a statement about the sequence of events**: while goroutine `t` holds `writeLock` (from any
reachable state, until `t` itself unlocks it), every frame-writing call on the underlying connection that
happens — data frame or close frame, by any goroutine — is `t`'s: frames are written one at a time. -/
theorem C16_write_section_uninterrupted (A B : List (Tid × Nat)) (t : Tid)
    (h1 : (run wsConn init A).locks.exH 5 = some t)
    (hno : ∀ e ∈ log wsConn (run wsConn init A) B, e.1 = t → opAt wsConn e.2 ≠ some (.unlock 5))
    (e : Tid × Nat) (he : e ∈ log wsConn (run wsConn init A) B) (w : Bool)
    (ha : accessOf wsConn e.2 = some (5, w)) : e.1 = t :=
  section_uninterrupted1 wsConn wsConn_lockset 5 5 C16_writes_under_writeLock A B t h1 hno e he w ha

/-- the hypothesis of `C16_write_section_uninterrupted` is met on the regenerated graph -/
theorem C16_section_reachable :
    (run wsConn init wsConn_witness_writeSection).locks.exH 5 = some 0 ∧
    (((run wsConn init wsConn_witness_writeSection).pc 0).bind (accessOf wsConn)).map (·.1) = some 5 := by decide +kernel

/-- **C17 (race freedom)** for `WSClient`: `session` and `err` -/
theorem C17_race_free (sched : List (Tid × Nat)) (t1 t2 : Tid) (hne : t1 ≠ t2) (pc1 pc2 : Nat) (v : Var) (w2 : Bool)
    (h1 : (run wsClient init sched).pc t1 = some pc1) (h2 : (run wsClient init sched).pc t2 = some pc2)
    (a1 : accessOf wsClient pc1 = some (v, true)) (a2 : accessOf wsClient pc2 = some (v, w2)) : False :=
  check_sound wsClient wsClient_lockset sched t1 t2 hne pc1 pc2 v w2 h1 h2 a1 a2

/-- **C16 (one writer)**: no two goroutines are ever simultaneously inside `Conn.WriteMessage` —
data frames from `Write`/`WriteMessage` and the close frame alike — nor at conflicting accesses to
the connection state -/
theorem C16_one_writer (sched : List (Tid × Nat)) (t1 t2 : Tid) (hne : t1 ≠ t2) (pc1 pc2 : Nat) (v : Var) (w2 : Bool)
    (h1 : (run wsConn init sched).pc t1 = some pc1) (h2 : (run wsConn init sched).pc t2 = some pc2)
    (a1 : accessOf wsConn pc1 = some (v, true)) (a2 : accessOf wsConn pc2 = some (v, w2)) : False :=
  check_sound wsConn wsConn_lockset sched t1 t2 hne pc1 pc2 v w2 h1 h2 a1 a2

end FV.Tie
