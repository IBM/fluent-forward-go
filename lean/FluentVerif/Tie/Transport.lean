import FluentVerif.Gen.Transport
/-! # `EventTime`'s binary form and the packed-stream functions are what the source says now (C03, C10, C13, C19, C20) -/
namespace FV.Tie
open FV.Sk.Tr FV.Gen.Transport

theorem EventTime_MarshalBinaryTo_is_model (t : Instant) : runMB t EventTime_MarshalBinaryTo {} = some (encodeET t) := rfl

theorem EventTime_UnmarshalBinary_is_model (p : Bytes) : runUB p EventTime_UnmarshalBinary {} = some (decodeET p) := by
  simp only [EventTime_UnmarshalBinary, runUB, decodeET]
  split <;> rfl

theorem whileEntries_is_model (f : Nat) (b : Bytes) (acc : List EntryExt) : whileEntries f b acc = unmarshalPackedF f b acc := by
  induction f generalizing b acc with
  | zero => rfl
  | succ f ih => simp only [whileEntries, unmarshalPackedF, ih]; rfl

theorem EntryList_UnmarshalPacked_is_model (b : Bytes) : runUP b EntryList_UnmarshalPacked {} = some (unmarshalPacked b) := by
  simp only [EntryList_UnmarshalPacked, runUP, whileEntries_is_model]; rfl

theorem EntryList_MarshalPacked_is_model (es : List (Instant × GoVal)) :
    runMP es EntryList_MarshalPacked {} = some (marshalPacked es) := by
  simp only [EntryList_MarshalPacked, runMP, marshalPacked]
  cases marshalEntries es <;> rfl

theorem EntryList_Equal_is_model {α : Type} [DecidableEq α] (l1 l2 : List α) :
    runEQ l1 l2 EntryList_Equal {} = some (Equal.equal l1 l2) := by
  simp only [EntryList_Equal, runEQ, Equal.equal]
  by_cases h : l1.length = l2.length <;> simp [h]

/-- the order matters: a buffer written before it is reset, or a body without the reset, is not a run -/
example : runMP [] [.poolGet, .deferPut, .forEncode, .retCopy] {} = none := rfl

end FV.Tie
