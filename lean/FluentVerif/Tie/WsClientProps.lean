import FluentVerif.Tie.WsClient
import FluentVerif.Props.C17
/-! # C17's theorems restated for the regenerated bodies of the websocket client's `Send` / `SendRaw` -/
namespace FV.Tie
open FV.WsC FV.Sk.WsCl FV.Gen.WsClient

/-- **C17 / C09 over the regenerated `Send`**: a nil result means exactly one binary frame with the message's encoding was handed to the
current session's connection, and nothing else changed there -/
theorem C17_Send_regenerated (i : In) (s : St) (e : Bytes) (he : i.enc = some e) (r : St × Bool)
    (hr : runW i (wsConnectSem i) WSClient_Send s = some r) (hok : r.2 = true) :
    ∃ c, s.session = some c ∧ framesOf r.1 c = framesOf s c ++ [(binaryFrame, e)] := by
  have hm := WSClient_Send_is_model i s
  rw [hr, he, Option.map_some, Option.some.injEq] at hm
  have := C17_send_one_frame s e i.writeFails (by rw [← hm, hok]; rfl)
  rwa [← hm] at this

/-- **C17 (sticky error) over the regenerated `SendRaw`**: once the listener's error is stored, `SendRaw` fails and writes nothing -/
theorem C17_SendRaw_sticky_regenerated (i : In) (s : St) (h : s.sticky = true) :
    runW i (wsConnectSem i) WSClient_SendRaw s = some (s, false) := by
  have hm := WSClient_SendRaw_is_model i s
  rw [step, C17_sticky s i.raw i.writeFails h] at hm
  revert hm
  rcases runW i (wsConnectSem i) WSClient_SendRaw s with _ | ⟨s', _ | _⟩ <;> intro hm <;> cases hm
  rfl

end FV.Tie
