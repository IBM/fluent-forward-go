import FluentVerif.Ws.Closers
import FluentVerif.Ws.Reader
/-! # C15, C16 — the websocket close protocol and the read side

About the closers' model `FV.WsCl` (`Ws/Closers.lean`, which has the invariant and `C15_closers`): `Open` stays
cleared, a waiting closer can always move on, a loser touches nothing but the lock, `Closed` is set before the
underlying close.  About the model of `Listen` and its read loop, `FV.WsR` (`Ws/Reader.lean`): its invariant,
one read loop at a time (C16), `done` closed once. -/
namespace FV.WsCl

theorem step_open_monotone (s : St) (t ch : Nat) (h : s.opn = false) : (step s t ch).opn = false := by
  unfold step
  repeat' split
  all_goals first | exact h | rfl

theorem C15_open_monotone (sched : List (Nat × Nat)) : ∀ s, s.opn = false → (run s sched).opn = false := by
  induction sched with
  | nil => intro s h; exact h
  | cons x xs ih => intro s h; exact ih _ (step_open_monotone s x.1 x.2 h)

/-- a closer waiting for the peer's answer always has an enabled step: the timer alternative
(`ch` even) moves it on whatever the environment does — every close call can return -/
theorem C15_closer_enabled (s : St) (t : Nat) (wok : Bool) (h : s.threads[t]? = some (.c5 wok)) :
    (step s t 0).threads[t]? = some .c6 := by
  unfold step
  rw [h]
  dsimp only
  split <;> exact get_set_self h

/-- every loser returns "multiple close calls" without touching anything but the lock -/
theorem C15_loser (s : St) (t ch : Nat) (h : s.threads[t]? = some .c1) (hc : s.opn = false) :
    (step s t ch).threads[t]? = some .retMultiple ∧ (step s t ch).frames = s.frames ∧
    (step s t ch).connCloses = s.connCloses := by
  unfold step
  rw [h, hc]
  exact ⟨get_set_self h, rfl, rfl⟩

/-- **Listen returns nil after a local close**: under every schedule of any number of closers and
every behaviour of reader, peer and network, the `Closed` bit is set no later than the underlying
connection is closed — so a reader whose `ReadMessage` fails *because of* that close finds
`hasConnState(Closed)` true and takes the healthy-close exit — and a `Close` call that returned
without the multiple-close error has left `Closed` set. -/
theorem C15_closed_before_close (n : Nat) (sched : List (Nat × Nat)) :
    (1 ≤ (run (init n) sched).connCloses → (run (init n) sched).closed = true) ∧
    (∀ t : Nat, (run (init n) sched).threads[t]? = some CPc.retDone → (run (init n) sched).closed = true) :=
  ⟨(inv2_run _ sched (inv2_init n)).cc, (inv2_run _ sched (inv2_init n)).done⟩

end FV.WsCl

namespace FV.WsR

/-- replacing one entry changes the count of active loops by that entry's contribution -/
theorem activeCount_set (l : List Pc) (t : Nat) (p0 p1 : Pc) (h : l[t]? = some p0) :
    activeCount (l.set t p1) + (if p0.active then 1 else 0) = activeCount l + (if p1.active then 1 else 0) := by
  obtain ⟨ht, rfl⟩ := List.getElem?_eq_some_iff.1 h
  have := List.boole_getElem_le_countP (p := Pc.active) ht
  simp only [activeCount, ← List.countP_eq_length_filter, List.countP_set ht]
  omega

/-- `one` is C16; `idle` (Listening clear: no loop active) and `lock` (test and setting of Listening are one call's, the one at
`l1`) make it inductive -/
structure Inv (s : St) : Prop where
  lock : ∀ (t : Nat), s.listenLock = some t ↔ s.threads[t]? = some .l1
  one : activeCount s.threads ≤ 1
  idle : s.listening = false → activeCount s.threads = 0

theorem activeCount_replicate (n : Nat) : activeCount (List.replicate n Pc.l0) = 0 := by
  rw [activeCount, ← List.countP_eq_length_filter, List.countP_replicate]; rfl

theorem inv_init (n : Nat) : Inv (init n) := by
  refine ⟨?_, ?_, ?_⟩
  · intro t; simp [init, List.getElem?_replicate]
  · simp [init, activeCount_replicate]
  · intro _; simp [init, activeCount_replicate]

/-- a move between program counters that are both or neither inside the read loop; the lock
takes the value `cl`, Listening stays -/
theorem inv_move {s : St} {t : Nat} {p0 p1 : Pc} {cl : Option Nat} (h : Inv s) (h0 : s.threads[t]? = some p0)
    (hl : ∀ u : Nat, cl = some u ↔ (s.threads.set t p1)[u]? = some .l1) (ha : p1.active = p0.active) :
    Inv { s.setPc t p1 with listenLock := cl } := by
  have e : activeCount (s.threads.set t p1) = activeCount s.threads := by
    have := activeCount_set s.threads t p0 p1 h0
    rw [ha] at this; omega
  exact ⟨hl, e ▸ h.one, fun hi => e ▸ h.idle hi⟩

theorem inv_step (once : Bool) (s : St) (t ch : Nat) (h : Inv s) : Inv (step once s t ch) := by
  unfold step
  split
  · exact h
  · next h0 =>
    split
    · next hfree => exact inv_move h h0 (lock_acquire h.lock h0 (Option.isNone_iff_eq_none.1 hfree)) rfl
    · exact h
  · next h0 =>
    have hl := fun p1 => lock_release (p1 := p1) h.lock h0
    split
    · exact inv_move h h0 (hl .already nofun) rfl
    · next hlis =>
      -- Listening was clear, so no loop was active; this one becomes the only one
      have hz := h.idle (Bool.not_eq_true _ ▸ hlis)
      have hcnt := activeCount_set s.threads t .l1 .reading h0
      exact ⟨hl .reading nofun, by simp only [St.setPc]; simp [Pc.active] at hcnt; omega, nofun⟩
  · next h0 => exact ite_ind h (inv_move h h0 (lock_keep h.lock h0 nofun nofun) rfl)
  · next h0 => exact inv_move h h0 (lock_keep h.lock h0 nofun nofun) rfl
  · next h0 =>
    -- Listening is cleared; this loop stops being the active one
    have hcnt := activeCount_set s.threads t .exit1 .exit2 h0
    have hone := h.one
    simp [Pc.active] at hcnt
    exact ⟨lock_keep h.lock h0 nofun nofun, by simp only [St.setPc]; omega, fun _ => by simp only [St.setPc]; omega⟩
  · next h0 =>
    have := inv_move (p1 := .fin) h h0 (lock_keep h.lock h0 nofun nofun) rfl
    -- the second branch also sets `doneFired` and `doneCloses`, which `Inv` does not mention: the state is not the
    -- term `inv_move` speaks of, but each field of `Inv` sees it through projections and is the same up to reduction
    exact ite_ind this ⟨this.lock, this.one, this.idle⟩
  · exact h
  · exact h

theorem inv_run (once : Bool) (sched : List (Nat × Nat)) : ∀ s, Inv s → Inv (run once s sched) := by
  induction sched with
  | nil => intro s h; exact h
  | cons x xs ih => intro s h; exact ih _ (inv_step once s x.1 x.2 h)

/-- **C16 (one reader)**: for any number of `Listen` calls on one connection, any schedule and any
behaviour of the peer, at most one read loop is between its spawn and the clearing of the Listening
flag — in particular at most one goroutine is inside `Conn.ReadMessage` at any time; every other
`Listen` call returns "already listening" -/
theorem C16_one_reader (once : Bool) (n : Nat) (sched : List (Nat × Nat)) :
    activeCount (run once (init n) sched).threads ≤ 1 :=
  (inv_run once sched (init n) (inv_init n)).one

theorem step_done_once (s : St) (t ch : Nat) (h : s.doneCloses = s.doneFired.toNat) :
    (step true s t ch).doneCloses = (step true s t ch).doneFired.toNat := by
  unfold step
  split
  · exact h
  · split <;> exact h
  · split <;> exact h
  · split <;> exact h
  · exact h
  · exact h
  · -- the only step that closes `done`, and only if the `Once` has not fired yet
    cases hf : s.doneFired
    · rw [hf] at h; exact congrArg (· + 1) h
    · exact h
  · exact h
  · exact h

/-- with the `sync.Once`, `done` is closed at most once whatever the number of Listen calls (before,
during and after closure): no "close of closed channel" -/
theorem C15_done_closed_once (n : Nat) (sched : List (Nat × Nat)) :
    (run true (init n) sched).doneCloses ≤ 1 := by
  suffices ∀ s, s.doneCloses = s.doneFired.toNat → (run true s sched).doneCloses ≤ 1 from this (init n) rfl
  induction sched with
  | nil => intro s h; exact h ▸ Bool.toNat_le _
  | cons x xs ih => intro s h; exact ih _ (step_done_once s x.1 x.2 h)

/-- the pinned code (no Once): two Listen calls, the second after the first loop has ended, close
`done` twice — the panic the repaired code excludes -/
theorem C15_legacy_witness :
    (run false (init 2) [(0, 0), (0, 0), (0, 1), (0, 0), (0, 0), (0, 0), (1, 0), (1, 0), (1, 1), (1, 0), (1, 0), (1, 0)]).doneCloses = 2 := by
  decide

-- non-vacuity: two overlapping Listen calls: the second returns "already listening"
example : (run true (init 2) [(0, 0), (0, 0), (1, 0), (1, 0)]).threads = [.reading, .already] := by decide

end FV.WsR
