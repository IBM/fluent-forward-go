import FluentVerif.Proto.Equal
/-! Lemmas for C20.  `unused s`: the entries of the marked copy that no match has used yet.  The inner loop
takes one occurrence of `a` out of them or fails (`markFirst_unused`), so the counter reaches `l.length`
iff all of `l` can be taken out one by one (`fullMatch`), which between lists of equal length is `Perm`. -/
namespace FV.Equal
variable {α : Type} [DecidableEq α]

def unused (s : List (α × Bool)) : List α := (s.filter (fun p => !p.2)).map (·.1)

/-- `markFirst a` takes the first `a` out of the unused entries, and fails if there is none -/
theorem markFirst_unused (a : α) : ∀ s : List (α × Bool),
    (markFirst a s).map unused = if a ∈ unused s then some ((unused s).erase a) else none
  | [] => rfl
  | (b, true) :: r => by
    rw [markFirst, if_neg (by simp), Option.map_map]
    exact markFirst_unused a r
  | (b, false) :: r => by
    by_cases e : a = b
    · subst e; simp [markFirst, unused]
    · have ih := congrArg (Option.map (b :: ·)) (markFirst_unused a r)
      rw [Option.map_map, apply_ite (Option.map (b :: ·))] at ih
      rw [markFirst, if_neg (by simp [e]), Option.map_map, show unused ((b, false) :: r) = b :: unused r from rfl,
        List.erase_cons_tail (by simpa using Ne.symm e)]
      simp only [List.mem_cons, e, false_or]
      exact ih

theorem countMatches_le : ∀ (l : List α) (s : List (α × Bool)), countMatches l s ≤ l.length
  | [], _ => by simp [countMatches]
  | a :: as, s => by
    unfold countMatches
    split
    · next s' _ => have := countMatches_le as s'; simp; omega
    · have := countMatches_le as s; simp; omega

/-- all of `l` found, one by one, in the unused part -/
def fullMatch : List α → List α → Prop
  | [], _ => True
  | a :: as, u => a ∈ u ∧ fullMatch as (u.erase a)

theorem count_full : ∀ (l : List α) (s : List (α × Bool)),
    countMatches l s = l.length ↔ fullMatch l (unused s)
  | [], s => by simp [countMatches, fullMatch]
  | a :: as, s => by
    have hm := markFirst_unused a s
    unfold countMatches fullMatch
    by_cases h : a ∈ unused s
    · rw [if_pos h] at hm
      obtain ⟨s', hs, hu⟩ := Option.map_eq_some_iff.1 hm
      rw [hs, ← hu, ← count_full as s']
      simp [h]
    · rw [if_neg h] at hm
      have := countMatches_le as s
      rw [Option.map_eq_none_iff.1 hm]
      simp only [List.length_cons, h, false_and, iff_false]
      omega

theorem fullMatch_perm : ∀ (l1 l2 : List α), l1.length = l2.length → (fullMatch l1 l2 ↔ l1.Perm l2)
  | [], [], _ => by simp [fullMatch]
  | [], _ :: _, hl => nomatch hl
  | a :: as, l2, hl => by
    rw [fullMatch, List.cons_perm_iff_perm_erase]
    exact and_congr_right fun hm => fullMatch_perm as _ (by rw [List.length_erase_of_mem hm, ← hl]; rfl)

omit [DecidableEq α] in
theorem unused_fresh (l : List α) : unused (l.map (·, false)) = l := by
  induction l with
  | nil => rfl
  | cons a as ih => simpa [unused] using ih

end FV.Equal
