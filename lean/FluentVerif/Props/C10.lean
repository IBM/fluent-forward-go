import FluentVerif.Proto.Chunk
import FluentVerif.Proto.Alloc
/-! # C10 — decoders are total on arbitrary bytes (decoder half)

* `C10_noPanic_T`: for every byte string, path and receiver the decoder returns a value or an
  error, never `panic` (every model function is total: recursion is on a count read from the input, or on
  fuel, `2·|b| + 2` for nested values and `|b| + 1` for a packed stream).
* `C10_prefix_T`: each message decoder rejects every strict prefix of an input it accepts in full.
* memory clause ("when decoding from a byte slice, memory requested stays proportionate to the input
  length").  `T.alloc b` (`Proto/Alloc.lean`) counts the elements the slice decoder of `T` requests through
  count-sized `make` calls; every other request is length-checked against the remaining input first.
  The clause at full strength, `∀ b, T.alloc b ≤ b.length`, is **false** of the model and of the code:
  `C10_alloc_full_false` (an 8-byte input requests 2³² − 1 elements; open finding
  C10-count-driven-allocation).  Proved instead, `C10_alloc_T_partial`: on every input the decoder
  *accepts*, the elements requested are at most the bytes consumed — what is missing is the rejected
  inputs, where a declared count is honoured before the elements turn out to be absent. -/
namespace FV

theorem C10_noPanic_Message (p recv b) : (Message.unmarshal p recv b).NoPanic := Message.unmarshal_reads.1
theorem C10_noPanic_MessageExt (p recv b) : (MessageExt.unmarshal p recv b).NoPanic := MessageExt.unmarshal_reads.1
theorem C10_noPanic_Forward (p recv b) : (Forward.unmarshal p recv b).NoPanic := Forward.unmarshal_reads.1
theorem C10_noPanic_Packed (p recv b) : (Packed.unmarshal p recv b).NoPanic := Packed.unmarshal_reads.1
theorem C10_noPanic_Entry (p recv b) : (Entry.unmarshal p recv b).NoPanic := Entry.unmarshal_reads.1
theorem C10_noPanic_EntryExt (p recv b) : (EntryExt.unmarshal p recv b).NoPanic := EntryExt.unmarshal_reads.1
theorem C10_noPanic_EntryList (p b) : (EntryList.unmarshal p b).NoPanic := EntryList.unmarshal_reads.1
theorem C10_noPanic_Options (p recv b) : (Options.unmarshal p recv b).NoPanic := Options.unmarshal_reads.1
theorem C10_noPanic_Ack (p recv b) : (Ack.unmarshal p recv b).NoPanic := Ack.unmarshal_reads.1
theorem C10_noPanic_Helo (p recv b) : (Helo.unmarshal p recv b).NoPanic := Helo.unmarshal_reads.1
theorem C10_noPanic_HeloOpts (p recv b) : (HeloOpts.unmarshal p recv b).NoPanic := HeloOpts.unmarshal_reads.1
theorem C10_noPanic_Ping (p recv b) : (Ping.unmarshal p recv b).NoPanic := Ping.unmarshal_reads.1
theorem C10_noPanic_Pong (p recv b) : (Pong.unmarshal p recv b).NoPanic := Pong.unmarshal_reads.1

/-- generic: a decoder that consumes exactly one value on success and never panics rejects every
strict prefix of an input it accepts completely -/
theorem prefix_rejected {α} (un : Bytes → Res α) (hs : ∀ b v r, un b = .ok v r → Reads1 b r)
    (hp : ∀ b, (un b).NoPanic) (b : Bytes) (v : α) (h : un b = .ok v [])
    (q y : Bytes) (hb : b = q ++ y) (hy : y ≠ []) : un q = .err := by
  obtain ⟨o, ho⟩ := hs b v [] h
  have hq := parse_prefix_free ho q y hb hy
  cases hu : un q with
  | err => rfl
  | panic w => exact absurd hu (hp q w)
  | ok v' r' =>
    obtain ⟨o', ho'⟩ := hs q v' r' hu
    rw [hq] at ho'; cases ho'

theorem prefix_rejected' {α} {un : Bytes → Res α} (hu : ∀ b, (un b).Leaves (Reads1 b)) {b v} (h : un b = .ok v [])
    {q y : Bytes} (hb : b = q ++ y) (hy : y ≠ []) : un q = .err :=
  prefix_rejected un (fun b => (hu b).2) (fun b => (hu b).1) b v h q y hb hy

theorem C10_prefix_Message (p recv b v) (h : Message.unmarshal p recv b = .ok v []) (q y : Bytes)
    (hb : b = q ++ y) (hy : y ≠ []) : Message.unmarshal p recv q = .err :=
  prefix_rejected' (fun _ => Message.unmarshal_reads) h hb hy
theorem C10_prefix_MessageExt (p recv b v) (h : MessageExt.unmarshal p recv b = .ok v []) (q y : Bytes)
    (hb : b = q ++ y) (hy : y ≠ []) : MessageExt.unmarshal p recv q = .err :=
  prefix_rejected' (fun _ => MessageExt.unmarshal_reads) h hb hy
theorem C10_prefix_Forward (p recv b v) (h : Forward.unmarshal p recv b = .ok v []) (q y : Bytes)
    (hb : b = q ++ y) (hy : y ≠ []) : Forward.unmarshal p recv q = .err :=
  prefix_rejected' (fun _ => Forward.unmarshal_reads) h hb hy
theorem C10_prefix_Packed (p recv b v) (h : Packed.unmarshal p recv b = .ok v []) (q y : Bytes)
    (hb : b = q ++ y) (hy : y ≠ []) : Packed.unmarshal p recv q = .err :=
  prefix_rejected' (fun _ => Packed.unmarshal_reads) h hb hy
theorem C10_prefix_Helo (p recv b v) (h : Helo.unmarshal p recv b = .ok v []) (q y : Bytes)
    (hb : b = q ++ y) (hy : y ≠ []) : Helo.unmarshal p recv q = .err :=
  prefix_rejected' (fun _ => Helo.unmarshal_reads) h hb hy
theorem C10_prefix_Pong (p recv b v) (h : Pong.unmarshal p recv b = .ok v []) (q y : Bytes)
    (hb : b = q ++ y) (hy : y ≠ []) : Pong.unmarshal p recv q = .err :=
  prefix_rejected' (fun _ => Pong.unmarshal_reads) h hb hy
theorem C10_prefix_Ping (p recv b v) (h : Ping.unmarshal p recv b = .ok v []) (q y : Bytes)
    (hb : b = q ++ y) (hy : y ≠ []) : Ping.unmarshal p recv q = .err :=
  prefix_rejected' (fun _ => Ping.unmarshal_reads) h hb hy
theorem C10_prefix_Ack (p recv b v) (h : Ack.unmarshal p recv b = .ok v []) (q y : Bytes)
    (hb : b = q ++ y) (hy : y ≠ []) : Ack.unmarshal p recv q = .err :=
  prefix_rejected' (fun _ => Ack.unmarshal_reads) h hb hy

theorem getChunkKeys_noPanic : ∀ (n : Nat) (b : Bytes), (getChunkKeys n b).NoPanic
  | 0, _ => Res.noPanic_err
  | n+1, b => (readMapKey_noPanic _ b).bind fun _ b1 => .ite (readMapKey_noPanic _ b1)
      ((skipP_noPanic .stream b1).bind fun _ b2 => getChunkKeys_noPanic n b2)

/-- `GetChunk` (hence `RawMessage.Chunk`) never panics, whatever the bytes -/
theorem C10_noPanic_getChunk (b : Bytes) : (getChunk b).NoPanic :=
  (readArrayHeader_noPanic b).bind fun _ b1 => .ite Res.noPanic_err <|
    (skipP_noPanic .stream b1).bind fun _ b2 =>
    Res.NoPanic.bind (.ite (.ite Res.noPanic_err (skipP_noPanic .stream b2)) (Res.noPanic_ok _ _)) fun _ b3 =>
    (skipP_noPanic .stream b3).bind fun _ b4 => (readMapHeader_noPanic b4).bind fun n b5 => getChunkKeys_noPanic n b5

/-- EventTime payload decoding is total: a value or an error -/
theorem C10_eventTime_total (p : Bytes) : decodeET p = none ∨ ∃ i, decodeET p = some i :=
  Option.eq_none_or_eq_some _

theorem C10_alloc_Message_partial (recv b v r) (h : Message.unmarshal .bytes recv b = .ok v r) :
    Message.alloc b ≤ b.length - r.length :=
  Nat.le_sub_of_add_le (Message.alloc_le h)
theorem C10_alloc_MessageExt_partial (recv b v r) (h : MessageExt.unmarshal .bytes recv b = .ok v r) :
    MessageExt.alloc b ≤ b.length - r.length :=
  Nat.le_sub_of_add_le (MessageExt.alloc_le h)
theorem C10_alloc_Forward_partial (recv b v r) (h : Forward.unmarshal .bytes recv b = .ok v r) :
    Forward.alloc b ≤ b.length - r.length :=
  Nat.le_sub_of_add_le (Forward.alloc_le h)
theorem C10_alloc_Entry_partial (recv b v r) (h : Entry.unmarshal .bytes recv b = .ok v r) :
    Entry.alloc b ≤ b.length - r.length := by have := Entry.alloc_le h; omega
theorem C10_alloc_EntryExt_partial (recv b v r) (h : EntryExt.unmarshal .bytes recv b = .ok v r) :
    EntryExt.alloc b ≤ b.length - r.length := by have := EntryExt.alloc_le h; omega
theorem C10_alloc_EntryList_partial (b v r) (h : EntryList.unmarshal .bytes b = .ok v r) :
    EntryList.alloc b ≤ b.length - r.length := by have := EntryList.alloc_le h; omega
/-- `UnmarshalPacked` that reads the whole stream without error -/
theorem C10_alloc_unmarshalPacked_partial (b es) (h : unmarshalPacked b = (es, true)) :
    unmarshalPackedAlloc b ≤ b.length := unmarshalPackedAllocF_le _ b [] es h

/-- `["", 0, <array32 declaring 0xffffffff elements>` … and nothing else: eight bytes -/
def allocWitness : Bytes := [0x93, 0xa0, 0x00, 0xdd, 0xff, 0xff, 0xff, 0xff]
/-- `["", <array32 declaring 0xffffffff entries>`: seven bytes, `make(EntryList, 4294967295)` -/
def allocWitnessFwd : Bytes := [0x92, 0xa0, 0xdd, 0xff, 0xff, 0xff, 0xff]

theorem C10_alloc_witness_Message : Message.alloc allocWitness = 4294967295 ∧ allocWitness.length = 8 ∧
    (Message.unmarshal .bytes {} allocWitness).rest? = none := by
  refine ⟨by decide +kernel, rfl, by decide +kernel⟩
theorem C10_alloc_witness_Forward : Forward.alloc allocWitnessFwd = 4294967295 ∧ allocWitnessFwd.length = 7 ∧
    (Forward.unmarshal .bytes {} allocWitnessFwd).rest? = none := by
  refine ⟨by decide +kernel, rfl, by decide +kernel⟩

/-- the memory clause at full strength is false of the model -/
theorem C10_alloc_full_false : ¬ ∀ b, Message.alloc b ≤ b.length := by
  intro h
  have := h allocWitness
  rw [C10_alloc_witness_Message.1] at this
  simp [allocWitness] at this

-- non-vacuity of the partial theorem: an accepted message whose record requests elements
example : (Message.unmarshal .bytes {} [0x93, 0xa1, 0x79, 0x02, 0x81, 0xa1, 0x6b, 0x92, 0x01, 0x02]).rest? = some [] ∧
    Message.alloc [0x93, 0xa1, 0x79, 0x02, 0x81, 0xa1, 0x6b, 0x92, 0x01, 0x02] = 3 := by
  constructor <;> decide +kernel

-- non-vacuity: an accepted input exists, and its strict prefix is rejected
example : (Message.unmarshal .stream {} [0x93, 0xa1, 0x79, 0x02, 0x80]).rest? = some [] := by decide
example : (Message.unmarshal .stream {} [0x93, 0xa1, 0x79, 0x02]).rest? = none := by decide

end FV
