import FluentVerif.Props.C11Lemmas
/-! # C11 — GetChunk agrees with full decoding on every well-formed message

`WellFormedMode o`: `o` is a Forward-protocol message of one of the four modes with 2, 3 or 4
elements: `[tag, time, record, option?]` with `time` an integer of **any** width, signed or
unsigned (they all parse to `.int`), or an extension object that is not one of msgp's own types
(EventTime in fixext8 **or** ext8/16 form — they all parse to `.ext 0 d`; so does ext32, which `hasExt32 b = false` excludes), or
`[tag, entries-array | binary-stream, option?]`; `record` / entries are **arbitrary** objects
(any nesting, decoy `chunk` keys included); `option` is nil or a map with non-empty string keys.
`Agrees res want`: the walker returns exactly the chunk the specification's option map holds and
reports an error exactly when there is none.  The statement is about every byte string `b` that
the specification parser reads as such an object, i.e. every legal msgpack encoding of it. -/
namespace FV
open Spec

inductive IsTime : Obj → Prop
  | int (i : Int) : IsTime (.int i)
  | ext (t : UInt8) (d : Bytes) (h : (t != 3 && t != 4 && t != 5) = true) : IsTime (.ext t d)

inductive IsBulk : Obj → Prop
  | arr (es : Objs) : IsBulk (.arr es)
  | bin (s : Bytes) : IsBulk (.bin s)

def OptOK (o : Obj) : Prop := o = .nil ∨ ∃ kvs, o = .map kvs ∧ KeysOK kvs

inductive WellFormedMode : Obj → Prop
  | msg3 (tag : Bytes) (t rec : Obj) : IsTime t →
      WellFormedMode (.arr (.cons (.str tag) (.cons t (.cons rec .nil))))
  | msg4 (tag : Bytes) (t rec opt : Obj) : IsTime t → OptOK opt →
      WellFormedMode (.arr (.cons (.str tag) (.cons t (.cons rec (.cons opt .nil)))))
  | bulk2 (tag : Bytes) (s : Obj) : IsBulk s →
      WellFormedMode (.arr (.cons (.str tag) (.cons s .nil)))
  | bulk3 (tag : Bytes) (s opt : Obj) : IsBulk s → OptOK opt →
      WellFormedMode (.arr (.cons (.str tag) (.cons s (.cons opt .nil))))

theorem isTimestamp_time {b t r} (h : parse b = some (t, r)) (ht : IsTime t) : isTimestampType b = true := by
  rw [isTimestampType_of_parse h]
  cases ht with
  | int i => rfl
  | ext t d hh => exact hh

theorem isTimestamp_bulk {b s r} (h : parse b = some (s, r)) (hs : IsBulk s) : isTimestampType b = false := by
  rw [isTimestampType_of_parse h]
  cases hs <;> rfl

theorem tail_agrees {b opt} (h : parse b = some (opt, [])) (ho : OptOK opt) (hx : hasExt32 b = false) :
    Agrees ((readMapHeader b).bind fun n b5 => getChunkKeys n b5) (optChunk opt) := by
  rcases ho with rfl | ⟨kvs, rfl, hk⟩
  · simp only [readMapHeader, show header b = _ from parse_iff.1 h]; rfl
  · obtain ⟨n, r0, hh, w⟩ := Run.of_map h fun _ => hx
    simp only [readMapHeader, hh, Res.bind]
    exact getChunkKeys_run n w hk

/-- **C11**, for every well-formed message of any mode in any legal msgpack encoding *that uses no
ext32 token* (`hasExt32 b = false`): what msgp's stream `Skip` does to those is part of the model,
and `C11_ext32_witness` below shows that the hypothesis cannot be dropped — the statement without it
is false of the model and of the code (open finding C11-ext32-skip). -/
theorem C11_agree (b : Bytes) (o : Obj) (h : parse b = some (o, [])) (hw : WellFormedMode o)
    (hx : hasExt32 b = false) :
    Agrees (getChunk b) (chunkOf o) := by
  have hx (_ : Path.stream = .stream) := hx
  cases hw with
  | msg3 tag t rec ht =>
    obtain ⟨_, r0, hh, _ | ⟨p1, x1, _ | ⟨p2, x2, _ | ⟨p3, x3, _ | _⟩⟩⟩⟩ := Run.of_arr h hx
    have : chunkOf (.arr (.cons (.str tag) (.cons t (.cons rec .nil)))) = none := by cases ht <;> rfl
    simp only [this, getChunk, readArrayHeader, hh, Res.bind, skipP_of_parse p1 x1, isTimestamp_time p2 ht]
    rfl
  | msg4 tag t rec opt ht ho =>
    obtain ⟨_, r0, hh, _ | ⟨p1, x1, _ | ⟨p2, x2, _ | ⟨p3, x3, _ | ⟨p4, x4, _ | _⟩⟩⟩⟩⟩ := Run.of_arr h hx
    rw [chunkOf_of_optionsOf (opt := opt) (by cases ht <;> rfl)]
    simp only [getChunk, readArrayHeader, hh, Res.bind, skipP_of_parse p1 x1, skipP_of_parse p2 x2, skipP_of_parse p3 x3,
      isTimestamp_time p2 ht, Nat.reduceAdd, Nat.reduceEqDiff, if_true, if_false]
    exact tail_agrees p4 ho (x4 rfl)
  | bulk2 tag s hs =>
    obtain ⟨_, r0, hh, _ | ⟨p1, x1, _ | ⟨p2, x2, _ | _⟩⟩⟩ := Run.of_arr h hx
    have : chunkOf (.arr (.cons (.str tag) (.cons s .nil))) = none := by cases hs <;> rfl
    simp only [this, getChunk, readArrayHeader, hh, Res.bind]
    rfl
  | bulk3 tag s opt hs ho =>
    obtain ⟨_, r0, hh, _ | ⟨p1, x1, _ | ⟨p2, x2, _ | ⟨p3, x3, _ | _⟩⟩⟩⟩ := Run.of_arr h hx
    rw [chunkOf_of_optionsOf (opt := opt) (by cases hs <;> rfl)]
    simp only [getChunk, readArrayHeader, hh, Res.bind, skipP_of_parse p1 x1, skipP_of_parse p2 x2, isTimestamp_bulk p2 hs,
      Nat.reduceAdd, Nat.reduceEqDiff, Bool.false_eq_true, if_false]
    exact tail_agrees p3 ho (x3 rfl)

/-- the pinned walker's timestamp test: unsigned integers (lead bytes `0xcc`–`0xcf`) not recognised -/
def isTimestampTypeLegacy (b : Bytes) : Bool :=
  match b with
  | lead :: _ =>
    (match header b with
     | some (.scalar (.int _), _) => !(lead == 0xcc || lead == 0xcd || lead == 0xce || lead == 0xcf)
     | some (.ext _, t :: _) => t != 3 && t != 4 && t != 5
     | _ => false)
  | [] => false

def getChunkLegacy (b : Bytes) : Res Bytes :=
  (readArrayHeader b).bind fun sz b1 =>
    if sz = 2 then .err else
    (skip b1).bind fun _ b2 =>
    (if isTimestampTypeLegacy b2 then (if sz = 3 then .err else skip b2) else .ok () b2).bind fun _ b3 =>
    (skip b3).bind fun _ b4 =>
    (readMapHeader b4).bind fun n b5 => getChunkKeys n b5

def decoy : Bytes := [0x93, 0xa0, 0xcd, 0x00, 0x00, 0x81, 0xa5, 0x63, 0x68, 0x75, 0x6e, 0x6b, 0xa1, 0x78]

/-- the pinned walker returned a record's decoy `chunk`: `["", uint16 0, {"chunk": "x"}]` has no options, yet the legacy test
takes the timestamp for the record and the record for the option map -/
theorem C11_legacy_witness :
    (match getChunkLegacy decoy with | .ok c _ => some c | _ => none) = some [0x78] ∧
    (match getChunk decoy with | .ok c _ => some c | _ => none) = none ∧
    (parse decoy).map (fun p => chunkOf p.1) = some none := by decide

-- non-vacuity: a concrete well-formed message with an unsigned timestamp and a real chunk option
example : WellFormedMode (.arr (.cons (.str []) (.cons (.int 7) (.cons (.map .nil)
    (.cons (.map (.cons (.str kChunk) (.cons (.str [0x61]) .nil))) .nil))))) :=
  .msg4 _ _ _ _ (.int 7) (Or.inr ⟨_, rfl, ⟨⟨kChunk, rfl, by decide⟩, trivial⟩⟩)

/-! ### the statement without the ext32 hypothesis is false (open finding C11-ext32-skip)

A Message whose EventTime is written in the ext32 format (legal msgpack, eight payload bytes) and
whose option map is `{"chunk": "abc"}`: well-formed, the option map carries a chunk — and the
walker returns an error, because the stream `Skip` gives up on the ext32 value.  The harness replays
these bytes on the real `GetChunk` (corpus/C11.lines): same answer. -/

deriving instance DecidableEq for Res

def ext32Witness : Bytes := [0x94, 0xa1, 0x74, 0xc9, 0, 0, 0, 8, 0, 0, 0, 0, 1, 0, 0, 0, 2, 0x80,
    0x81, 0xa5, 0x63, 0x68, 0x75, 0x6e, 0x6b, 0xa3, 0x61, 0x62, 0x63]

def ext32WitnessObj : Obj :=
  .arr (.cons (.str [0x74]) (.cons (.ext 0 [0, 0, 0, 1, 0, 0, 0, 2]) (.cons (.map .nil)
    (.cons (.map (.cons (.str [0x63, 0x68, 0x75, 0x6e, 0x6b]) (.cons (.str [0x61, 0x62, 0x63]) .nil))) .nil))))

theorem C11_ext32_witness :
    parse ext32Witness = some (ext32WitnessObj, []) ∧ WellFormedMode ext32WitnessObj ∧
    chunkOf ext32WitnessObj = some [0x61, 0x62, 0x63] ∧ getChunk ext32Witness = .err ∧
    hasExt32 ext32Witness = true := by
  refine ⟨by rfl, ?_, by rfl, by decide +kernel, by decide +kernel⟩
  exact .msg4 _ _ _ _ (.ext 0 _ (by decide)) (Or.inr ⟨_, rfl, ⟨_, rfl, by decide⟩, trivial⟩)

end FV
