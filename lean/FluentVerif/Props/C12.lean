import FluentVerif.Proto.ChunkID
import FluentVerif.Proto.RoundTrip
import FluentVerif.Forward.SpecLemmas
/-! # C12 — chunk ids are fresh per message, stable once assigned, and carried on the wire -/
namespace FV
open Spec

theorem b64val_char (n : Nat) (h : n < 64) : b64val (b64char n) = some n :=
  (by decide : ∀ n : Fin 64, b64val (b64char n.val) = some n.val) ⟨n, h⟩

theorem b64char_ne_pad (n : Nat) (h : n < 64) : b64char n ≠ 61 :=
  (by decide : ∀ n : Fin 64, b64char n.val ≠ 61) ⟨n, h⟩

theorem lt64 (n : Nat) : n % 64 < 64 := Nat.mod_lt _ (by decide)

/-! Base64 writes a number below 2^24 (2^18, 2^12 in the padded groups) in base 64, where the bytes are its
digits in base 256.  Decoding a group is stated for the number, so that the arithmetic is about one variable;
the bytes come in only in `b64dec_enc`.  (`rw`, not `simp only`: unfolding the `let` in `b64dec` by `simp`
leaves the kernel a comparison of `/`-terms that costs a thousand times more.) -/

theorem digits64 (n : Nat) :
    n / 4096 * 4096 + n / 64 % 64 * 64 + n % 64 = n ∧
    n / 262144 * 262144 + n / 4096 % 64 * 4096 + n / 64 % 64 * 64 + n % 64 = n := by
  rw [show n / 262144 = n / 64 / 64 / 64 by simp only [Nat.div_div_eq_div_mul],
    show n / 4096 = n / 64 / 64 by simp only [Nat.div_div_eq_div_mul]]
  omega

theorem b64dec_group (n : Nat) (h : n < 16777216) (r : Bytes) :
    b64dec (b64char (n / 262144) :: b64char (n / 4096 % 64) :: b64char (n / 64 % 64) :: b64char (n % 64) :: r) =
      (b64dec r).map fun rest => UInt8.ofNat (n / 65536) :: UInt8.ofNat (n / 256 % 256) :: UInt8.ofNat (n % 256) :: rest := by
  rw [b64dec, if_neg (b64char_ne_pad _ (lt64 _)), b64val_char _ (Nat.div_lt_of_lt_mul h), b64val_char _ (lt64 _),
    b64val_char _ (lt64 _), b64val_char _ (lt64 _), Option.bind_some, Option.bind_some, Option.bind_some,
    Option.bind_some, (digits64 n).2]

theorem b64dec_pad1 (n : Nat) (h : n < 262144) (h4 : n % 4 = 0) :
    b64dec [b64char (n / 4096), b64char (n / 64 % 64), b64char (n % 64), 61] =
      some [UInt8.ofNat (n / 1024), UInt8.ofNat (n / 4 % 256)] := by
  rw [b64dec, if_pos rfl, if_neg (by simp), if_neg (b64char_ne_pad _ (lt64 _)), b64val_char _ (Nat.div_lt_of_lt_mul h),
    b64val_char _ (lt64 _), b64val_char _ (lt64 _), Option.bind_some, Option.bind_some, Option.bind_some, (digits64 n).1]
  exact if_pos h4

theorem b64dec_pad2 (n : Nat) (h : n < 4096) (h16 : n % 16 = 0) :
    b64dec [b64char (n / 64), b64char (n % 64), 61, 61] = some [UInt8.ofNat (n / 16)] := by
  rw [b64dec, if_pos rfl, if_neg (by simp), if_pos rfl, b64val_char _ (Nat.div_lt_of_lt_mul h), b64val_char _ (lt64 _),
    Option.bind_some, Option.bind_some, Nat.div_add_mod']
  exact if_pos h16

/-- base64 decoding inverts encoding, for byte strings of every length -/
theorem b64dec_enc : ∀ (bs : Bytes), b64dec (b64enc bs) = some bs
  | [] => rfl
  | [a] => by
    have ha := a.toNat_lt
    rw [b64enc, b64dec_pad2 _ (by omega) (Nat.mul_mod_left ..), Nat.mul_div_cancel _ (by decide), UInt8.ofNat_toNat]
  | [a, b] => by
    have ha := a.toNat_lt; have hb := b.toNat_lt
    have e : ∀ n, n = a.toNat * 1024 + b.toNat * 4 → n < 262144 ∧ n % 4 = 0 ∧ n / 1024 = a.toNat ∧ n / 4 % 256 = b.toNat := by
      omega
    obtain ⟨e0, e1, e2, e3⟩ := e _ rfl
    rw [b64enc, b64dec_pad1 _ e0 e1, e2, e3, UInt8.ofNat_toNat, UInt8.ofNat_toNat]
  | a :: b :: c :: r => by
    have ha := a.toNat_lt; have hb := b.toNat_lt; have hc := c.toNat_lt
    have e : ∀ n, n = a.toNat * 65536 + b.toNat * 256 + c.toNat →
        n < 16777216 ∧ n / 65536 = a.toNat ∧ n / 256 % 256 = b.toNat ∧ n % 256 = c.toNat := by omega
    obtain ⟨e0, e1, e2, e3⟩ := e _ rfl
    rw [b64enc, b64dec_group _ e0, b64dec_enc r, e1, e2, e3, UInt8.ofNat_toNat, UInt8.ofNat_toNat, UInt8.ofNat_toNat]
    rfl

theorem b64enc_injective {a b : Bytes} (h : b64enc a = b64enc b) : a = b := by
  have := congrArg b64dec h
  rw [b64dec_enc, b64dec_enc] at this
  exact Option.some.inj this

/-- ids of two draws coincide exactly when the draws coincide on the 122 random bits -/
theorem C12_injective (d₁ d₂ : Bytes) : makeChunkID d₁ = makeChunkID d₂ ↔ uuidMask d₁ = uuidMask d₂ :=
  ⟨b64enc_injective, fun h => by simp [makeChunkID, h]⟩

theorem b64enc_ne_nil : ∀ (bs : Bytes), bs ≠ [] → b64enc bs ≠ []
  | [], h => absurd rfl h
  | [_], _ | [_, _], _ | _ :: _ :: _ :: _, _ => by simp [b64enc]

theorem makeChunkID_ne_nil (d : Bytes) (h : d ≠ []) : makeChunkID d ≠ [] := by
  apply b64enc_ne_nil
  cases d with
  | nil => exact absurd rfl h
  | cons x xs => simp [uuidMask, List.mapIdx_cons]

/-- no id yet (options nil, empty or populated without chunk): the generated id is stored and returned -/
theorem C12_assign (opts : Option Options) (draw : Bytes) (h : (opts.getD {}).chunk = []) :
    chunkCall opts draw = (some { (opts.getD {}) with chunk := makeChunkID draw }, makeChunkID draw) := by
  simp [chunkCall, h]

/-- an id is present (caller-supplied or assigned earlier): it is returned and nothing changes -/
theorem C12_stable (o : Options) (draw : Bytes) (h : o.chunk ≠ []) :
    chunkCall (some o) draw = (some o, o.chunk) := by
  simp [chunkCall, h]

/-- whatever the options were, after `Chunk()` they exist and hold the id returned, which is not empty -/
theorem chunkCall_spec (opts : Option Options) (draw : Bytes) (hd : draw ≠ []) :
    ∃ o, chunkCall opts draw = (some o, o.chunk) ∧ o.chunk ≠ [] := by
  by_cases e : (opts.getD {}).chunk = []
  · exact ⟨_, C12_assign opts draw e, makeChunkID_ne_nil draw hd⟩
  · exact ⟨opts.getD {}, by simp [chunkCall, e], e⟩

/-- repeated calls agree, whatever the later draws would have been -/
theorem C12_idempotent (opts : Option Options) (d₁ d₂ : Bytes) (h : d₁ ≠ []) :
    chunkCall (chunkCall opts d₁).1 d₂ = ((chunkCall opts d₁).1, (chunkCall opts d₁).2) := by
  obtain ⟨o, e, hne⟩ := chunkCall_spec opts d₁ h
  rw [e]; exact C12_stable o d₂ hne

/-- the specification reads the id back from the option map the encoder writes -/
theorem optChunk_toObj (o : Options) (h : o.chunk ≠ []) : optChunk o.toObj = some o.chunk := by
  obtain ⟨size, chunk, compressed⟩ := o
  have hc : (chunk != []) = true := bne_iff_ne.2 h
  cases size <;>
    simp only [optChunk, Options.toObj, hc, id, if_true, if_false, chunkOfKVs_cons, show kChunk = sChunk from rfl,
      show ¬ kSize = sChunk by decide]

/-- after `Chunk()` returned `id`, the option map of every encoding carries exactly `id`
(shown on the object the specification parser reads back from the encoder, C02); `f` is the mode's
`T.obj` as a function of the options -/
theorem chunkOf_chunkCall {f : Option Options → Obj} (hf : ∀ o, optionsOf (f (some o)) = some o.toObj)
    (opts : Option Options) (draw : Bytes) (hd : draw ≠ []) :
    chunkOf (f (chunkCall opts draw).1) = some (chunkCall opts draw).2 := by
  obtain ⟨o, e, h⟩ := chunkCall_spec opts draw hd
  rw [e]; exact (chunkOf_of_optionsOf (hf o)).trans (optChunk_toObj o h)

theorem C12_carried_Message (tag ts rec) (opts : Option Options) (draw : Bytes) (hd : draw ≠ []) :
    chunkOf (Message.obj tag ts rec (chunkCall opts draw).1) = some (chunkCall opts draw).2 :=
  chunkOf_chunkCall (fun _ => rfl) opts draw hd

theorem C12_carried_Packed (tag stream) (opts : Option Options) (draw : Bytes) (hd : draw ≠ []) :
    chunkOf (Packed.obj tag stream (chunkCall opts draw).1) = some (chunkCall opts draw).2 :=
  chunkOf_chunkCall (fun _ => rfl) opts draw hd

theorem C12_carried_Forward (tag es) (opts : Option Options) (draw : Bytes) (hd : draw ≠ []) :
    chunkOf (Forward.obj tag es (chunkCall opts draw).1) = some (chunkCall opts draw).2 :=
  chunkOf_chunkCall (fun _ => rfl) opts draw hd

theorem C12_carried_MessageExt (tag ts rec) (opts : Option Options) (draw : Bytes) (hd : draw ≠ []) :
    chunkOf (MessageExt.obj tag ts rec (chunkCall opts draw).1) = some (chunkCall opts draw).2 :=
  chunkOf_chunkCall (fun _ => rfl) opts draw hd

-- non-vacuity / sanity: the id of the all-zero draw
example : makeChunkID (List.replicate 16 0) =
    [65, 65, 65, 65, 65, 65, 65, 65, 81, 65, 67, 65, 65, 65, 65, 65, 65, 65, 65, 65, 65, 65, 61, 61] := by decide

end FV
