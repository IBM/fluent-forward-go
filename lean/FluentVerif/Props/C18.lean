import FluentVerif.Proto.Decode
/-! # C18 — decoding into a reused message equals decoding into a fresh one

The result of the four hand-written decoders, and of `Entry`'s and `EntryExt`'s, is a function of the input bytes alone: for every
receiver state `recv`, every path and every input (valid or not) it equals the result for the
zero receiver. -/
namespace FV

/- `rfl`: each of the four message decoders clears `options` first and assigns every other field before it
returns a value, so once the record updates are reduced no projection of `recv` is left in the result, on any
branch.  (A field added to a message type and not assigned by its decoder makes the `rfl` fail.) -/
theorem C18_Message (p : Path) (recv : Message) (b : Bytes) :
    Message.unmarshal p recv b = Message.unmarshal p {} b := by
  unfold Message.unmarshal; rfl
theorem C18_MessageExt (p : Path) (recv : MessageExt) (b : Bytes) :
    MessageExt.unmarshal p recv b = MessageExt.unmarshal p {} b := by
  unfold MessageExt.unmarshal; rfl
theorem C18_Forward (p : Path) (recv : Forward) (b : Bytes) :
    Forward.unmarshal p recv b = Forward.unmarshal p {} b := by
  unfold Forward.unmarshal; rfl
theorem C18_Packed (p : Path) (recv : Packed) (b : Bytes) :
    Packed.unmarshal p recv b = Packed.unmarshal p {} b := by
  unfold Packed.unmarshal; rfl
theorem C18_Entry (p : Path) (recv : Entry) (b : Bytes) :
    Entry.unmarshal p recv b = Entry.unmarshal p {} b := rfl
theorem C18_EntryExt (p : Path) (recv : EntryExt) (b : Bytes) :
    EntryExt.unmarshal p recv b = EntryExt.unmarshal p {} b := rfl

/-- the pinned decoder (options assigned only when a map is present), kept as a standing test
that the statement excludes the old behaviour -/
def Message.unmarshalLegacy (p : Path) (recv : Message) (b : Bytes) : Res Message :=
  (readArrayHeader b).bind fun sz b1 =>
    (readString b1).bind fun tag b2 =>
    (readInt64 b2).bind fun ts b3 =>
    (readIntf p b3).bind fun r b4 =>
      let m := { recv with tag := tag, ts := ts, record := r }
      if sz = 4 then
        if isNil b4 then (readNil b4).map fun _ => m
        else (Options.unmarshal p {} b4).map fun o => { m with options := some o }
      else .ok m b4

def optionsSet : Res Message → Bool
  | .ok m _ => m.options.isSome
  | _ => false

/-- `["y", 2, {}]` decoded into a receiver that carried a chunk id kept it -/
theorem C18_legacy_witness :
    optionsSet (Message.unmarshalLegacy .bytes { options := some { chunk := [0x61] } } [0x93, 0xa1, 0x79, 0x02, 0x80]) = true ∧
    optionsSet (Message.unmarshalLegacy .bytes {} [0x93, 0xa1, 0x79, 0x02, 0x80]) = false ∧
    optionsSet (Message.unmarshal .bytes { options := some { chunk := [0x61] } } [0x93, 0xa1, 0x79, 0x02, 0x80]) = false := by
  decide

end FV
