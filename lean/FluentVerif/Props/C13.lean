import FluentVerif.Proto.DecodeLemmas
/-! # C13 — decoding consumes exactly one msgpack value, whatever the declared arity

`Reads1 b r` is "`parse b = some (o, r)` for some object `o`": the independent specification
parser finds exactly one complete value in front of `r`.  Each theorem holds for **every** input
`b`, every receiver and both decoder paths. -/
namespace FV

theorem C13_Message (p : Path) (recv : Message) (b : Bytes) (v r) :
    Message.unmarshal p recv b = .ok v r → Reads1 b r := Message.unmarshal_reads.2 v r
theorem C13_MessageExt (p : Path) (recv : MessageExt) (b : Bytes) (v r) :
    MessageExt.unmarshal p recv b = .ok v r → Reads1 b r := MessageExt.unmarshal_reads.2 v r
theorem C13_Forward (p : Path) (recv : Forward) (b : Bytes) (v r) :
    Forward.unmarshal p recv b = .ok v r → Reads1 b r := Forward.unmarshal_reads.2 v r
theorem C13_Packed (p : Path) (recv : Packed) (b : Bytes) (v r) :
    Packed.unmarshal p recv b = .ok v r → Reads1 b r := Packed.unmarshal_reads.2 v r
theorem C13_Entry (p : Path) (recv : Entry) (b : Bytes) (v r) :
    Entry.unmarshal p recv b = .ok v r → Reads1 b r := Entry.unmarshal_reads.2 v r
theorem C13_EntryExt (p : Path) (recv : EntryExt) (b : Bytes) (v r) :
    EntryExt.unmarshal p recv b = .ok v r → Reads1 b r := EntryExt.unmarshal_reads.2 v r
theorem C13_EntryList (p : Path) (b : Bytes) (v r) :
    EntryList.unmarshal p b = .ok v r → Reads1 b r := EntryList.unmarshal_reads.2 v r
theorem C13_Options (p : Path) (recv : Options) (b : Bytes) (v r) :
    Options.unmarshal p recv b = .ok v r → Reads1 b r := Options.unmarshal_reads.2 v r
theorem C13_Ack (p : Path) (recv : Ack) (b : Bytes) (v r) :
    Ack.unmarshal p recv b = .ok v r → Reads1 b r := Ack.unmarshal_reads.2 v r
theorem C13_Helo (p : Path) (recv : Helo) (b : Bytes) (v r) :
    Helo.unmarshal p recv b = .ok v r → Reads1 b r := Helo.unmarshal_reads.2 v r
theorem C13_HeloOpts (p : Path) (recv : HeloOpts) (b : Bytes) (v r) :
    HeloOpts.unmarshal p recv b = .ok v r → Reads1 b r := HeloOpts.unmarshal_reads.2 v r
theorem C13_Ping (p : Path) (recv : Ping) (b : Bytes) (v r) :
    Ping.unmarshal p recv b = .ok v r → Reads1 b r := Ping.unmarshal_reads.2 v r
theorem C13_Pong (p : Path) (recv : Pong) (b : Bytes) (v r) :
    Pong.unmarshal p recv b = .ok v r → Reads1 b r := Pong.unmarshal_reads.2 v r

/-- a count the protocol does not allow for the mode is rejected (never read short / past the end) -/
theorem C13_arity_Message (p : Path) (recv : Message) (b : Bytes) (sz : Nat) (b1 : Bytes)
    (h : readArrayHeader b = .ok sz b1) (hsz : sz ≠ 3 ∧ sz ≠ 4) : Message.unmarshal p recv b = .err := by
  simp [Message.unmarshal, h, Res.bind, hsz]
theorem C13_arity_MessageExt (p : Path) (recv : MessageExt) (b : Bytes) (sz : Nat) (b1 : Bytes)
    (h : readArrayHeader b = .ok sz b1) (hsz : sz ≠ 3 ∧ sz ≠ 4) : MessageExt.unmarshal p recv b = .err := by
  simp [MessageExt.unmarshal, h, Res.bind, hsz]
theorem C13_arity_Forward (p : Path) (recv : Forward) (b : Bytes) (sz : Nat) (b1 : Bytes)
    (h : readArrayHeader b = .ok sz b1) (hsz : sz ≠ 2 ∧ sz ≠ 3) : Forward.unmarshal p recv b = .err := by
  simp [Forward.unmarshal, h, Res.bind, hsz]
theorem C13_arity_Packed (p : Path) (recv : Packed) (b : Bytes) (sz : Nat) (b1 : Bytes)
    (h : readArrayHeader b = .ok sz b1) (hsz : sz ≠ 2 ∧ sz ≠ 3) : Packed.unmarshal p recv b = .err := by
  simp [Packed.unmarshal, h, Res.bind, hsz]

/-- `n` values decoded one after another (slice or stream) -/
def decodeMany {α} (un : Bytes → Res α) : Nat → Bytes → Option (List α × Bytes)
  | 0, b => some ([], b)
  | n+1, b => match un b with
    | .ok v r => (decodeMany un n r).map fun (vs, r') => (v :: vs, r')
    | _ => none

/-- with any decoder that consumes exactly one value per success, what is consumed is exactly `n` complete values -/
theorem C13_sequence {α} (un : Bytes → Res α) (hun : ∀ b v r, un b = .ok v r → Reads1 b r) :
    ∀ (n : Nat) (b : Bytes) (vs r), decodeMany un n b = some (vs, r) → ReadsN n b r
  | 0, b, vs, r, h => by cases h; exact ReadsN.zero _
  | n+1, b, vs, r, h => by
    unfold decodeMany at h
    split at h
    · next v r1 hv =>
      obtain ⟨⟨vs', r'⟩, hd, e⟩ := Option.map_eq_some_iff.1 h
      cases e
      exact ReadsN.cons (hun b v r1 hv) (C13_sequence un hun n r1 _ _ hd)
    · cases h

-- non-vacuity: a concrete arity-3 message followed by trailing data is decoded up to its boundary
example : (Message.unmarshal .bytes {} ([0x93, 0xa1, 0x79, 0x02, 0x80] ++ [0xff])).rest? = some [0xff] := by decide
-- an array of two elements is an error: it is not completed from the message that follows
example : (Message.unmarshal .bytes {} ([0x92, 0xa1, 0x7a, 0x03] ++ [0x93, 0xa1, 0x79, 0x02, 0x80])).rest? = none := by decide

end FV
