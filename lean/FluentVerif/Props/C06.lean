import FluentVerif.Client.TcpLemmas
/-! # C06 / C14 (sequential part) — invariants of the TCP client over all operation sequences

`Inv s`: the event log is well ordered (`replay`: no write, deadline or close on a connection that
is not open; no connection dialled while it is open) and the set of open connections — dialled and not yet
closed — is exactly `{session.conn}` (or empty).  Hence at most one connection is open, every
connection is closed at most once and no later than the step that replaces or drops it, and
nothing is written to a connection after the client closed or replaced it.  Proved for **every**
operation sequence of every length, every configuration, every factory / peer / fault script. -/
namespace FV.Tcp

theorem inv_step (H : Bytes → Bytes) (cfg : Cfg) (s : St) (op : Op) (hi : Inv s) : Inv (step H cfg s op).1 := by
  cases op with
  | connect d c =>
    rw [step]
    split
    · exact hi
    · next hn => exact inv_connect cfg s d c hi (by simpa using hn)
  | disconnect => exact inv_disconnect s hi
  | reconnect d c => exact inv_connect cfg _ d c (inv_disconnect s hi) (disconnect_session s)
  | handshake helo salt pong f =>
    rcases handshake_cases H cfg s helo salt pong f with e | ⟨id, tp, hs, ⟨_, _, e⟩ | ⟨_, e, -⟩⟩ <;>
      rw [step, e]
    · exact hi
    · exact hi.io hs hs rfl rfl fun ev h => .inl ⟨_, _, List.mem_singleton.1 h⟩
    · exact hi.io hs rfl rfl rfl fun ev h => .inl ⟨_, _, List.mem_singleton.1 h⟩
  | send enc chunk f resp =>
    rcases send_cases cfg s enc chunk f resp with h | ⟨id, e, hs, rfl⟩
    · rw [step, h]; exact hi
    · rw [step, send_transport hs]
      refine hi.io hs hs rfl rfl fun ev h => ?_
      rcases List.mem_cons.1 h with rfl | h
      · exact .inl ⟨_, _, rfl⟩
      · split at h
        · exact .inr (List.mem_singleton.1 h)
        · cases h
  | sendRaw b f =>
    rcases s.session_cases with hs | ⟨id, hs⟩
    · rw [step, sendRaw_idle hs]; exact hi
    · rw [step, sendRaw_transport hs]
      exact hi.io hs hs rfl rfl fun ev h => .inl ⟨_, _, List.mem_singleton.1 h⟩
  | transportPhase => exact hi

/-- **every reachable state** satisfies the invariant -/
theorem C06_inv_run (H : Bytes → Bytes) (cfg : Cfg) (ops : List Op) : Inv (run H cfg {} ops) := by
  suffices ∀ s, Inv s → Inv (run H cfg s ops) from this {} inv_init
  induction ops with
  | nil => intro s h; exact h
  | cons op rest ih => intro s h; exact ih _ (inv_step H cfg s op h)

/-- C14: at most one connection is open, and it is the session's -/
theorem C14_one_open (H : Bytes → Bytes) (cfg : Cfg) (ops : List Op) :
    ∃ o, replay (run H cfg {} ops).log [] = some o ∧ o.length ≤ 1 := by
  have := (C06_inv_run H cfg ops).opens
  refine ⟨_, this, ?_⟩
  cases (run H cfg {} ops).session with
  | none => simp
  | some p => simp

/-- sends outside a live session in transport phase return an error and touch nothing:
before Connect, after Disconnect, after a failed Connect/Reconnect, before a successful Handshake -/
theorem C06_send_needs_transport (cfg : Cfg) (s : St) (enc chunk f resp)
    (h : s.session = none ∨ ∃ id, s.session = some (id, false)) :
    send cfg s enc chunk f resp = (s, .err) :=
  send_idle h

theorem C06_sendRaw_needs_transport (s : St) (b f)
    (h : s.session = none ∨ ∃ id, s.session = some (id, false)) :
    sendRaw s b f = (s, .err) :=
  sendRaw_idle h

/-- with a shared key configured, a fresh connection is *not* in transport phase -/
theorem C06_connect_not_transport (cfg : Cfg) (s : St) (c : Bool) (key : Bytes) (hk : cfg.sharedKey = some key) :
    (connect cfg s true c).1.session = some (s.conns.length, false) := by
  simp [connect, hk]

/-- after Disconnect, and after a failed Connect / Reconnect, there is no session -/
theorem C06_no_session_after (cfg : Cfg) (s : St) (c : Bool) :
    (disconnect s).1.session = none ∧ (connect cfg (disconnect s).1 false c).1.session = none :=
  ⟨disconnect_session s, disconnect_session s⟩

/-- which steps write, and where: only `handshake` (one write, the PING, on the current session's
connection) and `send`/`sendRaw` in transport phase; every other step writes nothing -/
theorem C06_writes (H : Bytes → Bytes) (cfg : Cfg) (s : St) (op : Op) (id : Nat) (acc : Bytes) (st : WStatus)
    (hw : Ev.write id acc st ∈ (step H cfg s op).1.log.drop s.log.length) :
    (∃ tp, s.session = some (id, tp)) ∧
    ((∃ helo salt pong f, op = .handshake helo salt pong f) ∨ s.session = some (id, true)) := by
  change _ ∈ newEvents s _ at hw
  cases op with
  | connect d c =>
    rw [step] at hw
    split at hw
    · rw [newEvents_self] at hw; cases hw
    · rw [newEvents_of_log (connect_log ..)] at hw
      split at hw <;> cases List.mem_singleton.1 hw
  | disconnect =>
    rw [step, newEvents_of_log (disconnect_log s)] at hw
    split at hw
    · cases List.mem_singleton.1 hw
    · cases hw
  | reconnect d c =>
    rw [step, newEvents, connect_log, disconnect_log, List.append_assoc, List.drop_left] at hw
    rcases List.mem_append.1 hw with hw | hw
    · split at hw
      · cases List.mem_singleton.1 hw
      · cases hw
    · split at hw <;> cases List.mem_singleton.1 hw
  | transportPhase => rw [step, newEvents_self] at hw; cases hw
  | handshake helo salt pong f =>
    refine ⟨?_, .inl ⟨helo, salt, pong, f, rfl⟩⟩
    rcases handshake_cases H cfg s helo salt pong f with e | ⟨id', tp, hs, ⟨_, _, e⟩ | ⟨_, e, -⟩⟩ <;>
      rw [step, e] at hw
    · rw [newEvents_self] at hw; cases hw
    · rw [newEvents_of_log rfl] at hw; cases List.mem_singleton.1 hw; exact ⟨tp, hs⟩
    · rw [newEvents_of_log rfl] at hw; cases List.mem_singleton.1 hw; exact ⟨tp, hs⟩
  | send enc chunk f resp =>
    rcases send_cases cfg s enc chunk f resp with h | ⟨id', e, hs, rfl⟩
    · rw [step, h, newEvents_self] at hw; cases hw
    · rw [step, send_transport hs, newEvents_of_log rfl] at hw
      rcases List.mem_cons.1 hw with hw | hw
      · cases hw; exact ⟨⟨true, hs⟩, .inr hs⟩
      · split at hw
        · cases List.mem_singleton.1 hw
        · cases hw
  | sendRaw b f =>
    rcases s.session_cases with hs | ⟨id', hs⟩
    · rw [step, sendRaw_idle hs, newEvents_self] at hw; cases hw
    · rw [step, sendRaw_transport hs, newEvents_of_log rfl] at hw
      cases List.mem_singleton.1 hw
      exact ⟨⟨true, hs⟩, .inr hs⟩

/-- C14: Connect on an active session returns an error and dials nothing -/
theorem C14_connect_active (H : Bytes → Bytes) (cfg : Cfg) (s : St) (d c : Bool) (h : s.session.isSome) :
    step H cfg s (.connect d c) = (s, .err) := by
  simp [step, h]

/-- C14 / C10: no step of the client panics, whatever the peer sends -/
theorem C14_no_panic (H : Bytes → Bytes) (cfg : Cfg) (s : St) (op : Op) : (step H cfg s op).2 ≠ .panic := by
  cases op with
  | connect d c =>
    rw [step]; split
    · nofun
    · rw [connect]; split <;> nofun
  | disconnect =>
    rw [step, disconnect]; split
    · nofun
    · dsimp only; split <;> nofun
  | reconnect d c => rw [step, connect]; split <;> nofun
  | transportPhase => nofun
  | handshake helo salt pong f =>
    rcases handshake_cases H cfg s helo salt pong f with e | ⟨_, _, _, ⟨_, _, e⟩ | ⟨_, e, -⟩⟩ <;>
      rw [step, e] <;> nofun
  | send enc chunk f resp =>
    rcases send_cases cfg s enc chunk f resp with h | ⟨id, e, hs, rfl⟩
    · rw [step, h]; nofun
    · rw [step, send_transport hs]; dsimp only; split <;> nofun
  | sendRaw b f =>
    rcases s.session_cases with hs | ⟨id, hs⟩
    · rw [step, sendRaw_idle hs]; nofun
    · rw [step, sendRaw_transport hs]; dsimp only; split <;> nofun

-- non-vacuity: a concrete history (connect, a raw write, reconnect, disconnect): the reconnect closes the first connection
-- before it dials the second, the disconnect closes the second, and nothing is left open
example : (run (fun _ => []) {} {} [.connect true false, .sendRaw [1, 2] .none, .reconnect true false, .disconnect]).log =
    [.dial 0, .write 0 [1, 2] .ok, .close 0, .dial 1, .close 1] := by decide

end FV.Tcp
