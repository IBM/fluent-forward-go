import FluentVerif.Proto.Grammar
import FluentVerif.Proto.RoundTripHs
import FluentVerif.Client.Helpers
/-! # C02 — encoded bytes conform to the Forward Protocol v1 wire format

Judge: the specification parser `parse` and the grammar predicates of `Forward/Spec.lean`, which
share no definition with the encoder models.  For every representable message whose records are
maps, the emitted bytes are exactly one msgpack value (`parse e = some (o, [])`) and that value
has the structure the specification prescribes.  EventTime is written as `0xd7 0x00` followed by
big-endian seconds and nanoseconds (`appendEventTime`, `encodeET`; C19).  The stamping of the
`Send*` helpers: `C02_SendX`, over `Client/Helpers.lean`.  The
verbatim clause for `RawMessage`/`SendRaw` is in the client model (`C09_raw`) and in the correspondence. -/
namespace FV
open Spec

/-- what an encoder's `marshal_parse` says about the bytes alone -/
theorem parse_all {e : Bytes} {o : Obj} (h : ∀ x, parse (e ++ x) = some (o, x)) : parse e = some (o, []) :=
  List.append_nil e ▸ h []

theorem C02_Message (tag : Bytes) (ts : Int) (kvs : GoKVs) (opts : Option Options) (e : Bytes)
    (htag : lenOK tag) (hts : inInt64 ts) (hrec : (GoVal.map kvs).WF) (hopts : optPtrWF opts)
    (he : Message.marshal tag ts (.map kvs) opts = some e) :
    ∃ o, parse e = some (o, []) ∧ isMessage o = true :=
  ⟨_, parse_all (Message.marshal_parse htag hts hrec hopts he), isMessage_obj tag ts kvs opts⟩

theorem C02_MessageExt (tag : Bytes) (ts : Instant) (kvs : GoKVs) (opts : Option Options) (e : Bytes)
    (htag : lenOK tag) (hrec : (GoVal.map kvs).WF) (hopts : optPtrWF opts)
    (he : MessageExt.marshal tag ts (.map kvs) opts = some e) :
    ∃ o, parse e = some (o, []) ∧ isMessageExt o = true :=
  ⟨_, parse_all (MessageExt.marshal_parse htag hrec hopts he), isMessageExt_obj tag ts kvs opts⟩

theorem C02_Forward (tag : Bytes) (es : List (Instant × GoVal)) (opts : Option Options) (e : Bytes)
    (htag : lenOK tag) (hn : es.length < 4294967296) (hes : entriesWF es) (hm : recordsAreMaps es)
    (hopts : optPtrWF opts) (he : Forward.marshal tag es opts = some e) :
    ∃ o, parse e = some (o, []) ∧ isForward o = true :=
  ⟨_, parse_all (Forward.marshal_parse htag hn hes hopts he), isForward_obj tag es opts hm⟩

theorem C02_Packed (tag stream : Bytes) (opts : Option Options) (htag : lenOK tag) (hs : lenOK stream)
    (hopts : optPtrWF opts) :
    ∃ o, parse (Packed.marshal tag stream opts) = some (o, []) ∧ isPacked o = true :=
  ⟨_, parse_all (Packed.marshal_parse htag hs hopts), isPacked_obj tag stream opts⟩

/-- the event stream of a packed message built from entries is the concatenation of the entries'
encodings, each of which is an `[EventTime, record]` pair -/
theorem C02_packed_stream (es : List (Instant × GoVal)) (s : Bytes) (hes : entriesWF es)
    (he : marshalPacked es = some s) : parseSeq es.length s = some (entriesObjs es, []) :=
  List.append_nil s ▸ marshalEntries_parse es s hes he []

theorem C02_options (o : Options) (hw : o.WF) :
    ∃ ob, parse o.marshal = some (ob, []) ∧ isOptionMap ob = true :=
  ⟨_, parse_all (Options.marshal_parse o hw), isOptionMap_toObj o⟩

theorem C02_ack (a : Ack) (h : lenOK a.ack) : ∃ o, parse a.marshal = some (o, []) ∧ isAck o = true :=
  ⟨_, parse_all (Ack.marshal_parse a h), isAck_obj a⟩

theorem C02_helo (o : HeloOpts) (h : o.WF) :
    ∃ ob, parse (Helo.marshal { mtype := [0x48, 0x45, 0x4c, 0x4f], options := some o }) = some (ob, []) ∧
      isHelo ob = true :=
  ⟨_, parse_all (Helo.marshal_parse { mtype := [0x48, 0x45, 0x4c, 0x4f], options := some o } (by decide : 4 < 4294967296) h),
    isHelo_obj o⟩

theorem C02_ping (q : Ping) (h : q.WF) (hm : q.mtype = [0x50, 0x49, 0x4e, 0x47]) :
    ∃ o, parse q.marshal = some (o, []) ∧ isPing o = true :=
  ⟨_, parse_all (Ping.marshal_parse q h), isPing_obj q hm⟩

theorem C02_pong (q : Pong) (h : q.WF) (hm : q.mtype = [0x50, 0x4f, 0x4e, 0x47]) :
    ∃ o, parse q.marshal = some (o, []) ∧ isPong o = true :=
  ⟨_, parse_all (Pong.marshal_parse q h), isPong_obj q hm⟩

/-- EventTime on the wire: fixext8 (0xd7), type 0, then big-endian seconds and nanoseconds -/
theorem C02_eventtime (t : Instant) :
    appendEventTime t = [0xd7, 0x00] ++ (be 4 (t.sec % 4294967296).toNat ++ be 4 (t.nsec % 4294967296)) := rfl

theorem Codec.gunzipOne_member (cd : Codec) (p : Bytes) : cd.gunzipOne (cd.member p) = some (p, []) :=
  List.append_nil (cd.member p) ▸ cd.sound p []

/-- `NewCompressedPackedForwardMessage` with the recycled compressor run: whatever it held, the stream is one member of the
packed entries -/
theorem newCompressed_eq (cd : Codec) (pl : Compressor) (tag : Bytes) (es : List (Instant × GoVal)) :
    newCompressed cd pl tag es = (marshalPacked es).map fun s =>
      { tag := tag, stream := cd.member s, options := some { size := some es.length, compressed := vGzip } } := by
  rw [newCompressed]; cases marshalPacked es <;> rfl

/-! ### the `Send*` helpers: the mode each one names, stamped with the time of the call -/

theorem stampChunk_WF {ack id o} (ho : optPtrWF o) (hid : lenOK id) : optPtrWF (stampChunk ack id o) := by
  unfold stampChunk
  cases ack with
  | false => simpa using ho
  | true =>
    have hd : (o.getD {}).WF := by
      cases o with
      | none => exact ⟨by simp, by simp, by simp⟩
      | some x => exact ho
    simp only [ite_true, optPtrWF]
    split
    · exact ⟨hd.size, hid, hd.compressed⟩
    · exact hd

/-- the options a helper-built message ends up with: the constructor's, plus the drawn chunk id iff
acks are required -/
theorem stampChunk_fresh (ack : Bool) (id : Bytes) (s : Option Int) (z : Bytes) :
    stampChunk ack id (some { size := s, compressed := z }) =
      some { size := s, chunk := if ack then id else [], compressed := z } := by
  cases ack <;> rfl

theorem stampChunk_none (ack : Bool) (id : Bytes) :
    stampChunk ack id none = if ack then some { chunk := id } else none := rfl

/-- the options a constructor leaves: a count below 2^32, no chunk, a short `compressed` -/
theorem ctorOpts_WF {n : Nat} {z : Bytes} (hn : n < 4294967296) (hz : lenOK z) :
    optPtrWF (some { size := some (n : Int), compressed := z }) :=
  ⟨fun i hi => by cases hi; exact ⟨by omega, by omega⟩, Nat.zero_lt_succ _, hz⟩

/-- `SendMessage`: Message mode, integer time = the second of the call, the given record, and an
option map holding exactly the chunk id when acks are required (nil otherwise) -/
theorem C02_SendMessage (cd pl now ack id) (tag : Bytes) (kvs : GoKVs) (e : Bytes)
    (htag : lenOK tag) (hts : inInt64 now.sec) (hrec : (GoVal.map kvs).WF) (hid : lenOK id)
    (he : Helper.wire cd pl now ack id (.message tag (.map kvs)) = some e) :
    parse e = some (Message.obj tag now.sec (.map kvs) (if ack then some { chunk := id } else none), []) ∧
    isMessage (Message.obj tag now.sec (.map kvs) (if ack then some { chunk := id } else none)) = true := by
  refine ⟨?_, isMessage_obj _ _ _ _⟩
  simpa only [stampChunk_none] using
    parse_all (Message.marshal_parse htag hts hrec (stampChunk_WF (o := none) trivial hid) he)

/-- `SendMessageExt`: the same with an EventTime holding the instant of the call -/
theorem C02_SendMessageExt (cd pl now ack id) (tag : Bytes) (kvs : GoKVs) (e : Bytes)
    (htag : lenOK tag) (hrec : (GoVal.map kvs).WF) (hid : lenOK id)
    (he : Helper.wire cd pl now ack id (.messageExt tag (.map kvs)) = some e) :
    parse e = some (MessageExt.obj tag now (.map kvs) (if ack then some { chunk := id } else none), []) ∧
    isMessageExt (MessageExt.obj tag now (.map kvs) (if ack then some { chunk := id } else none)) = true := by
  refine ⟨?_, isMessageExt_obj _ _ _ _⟩
  simpa only [stampChunk_none] using
    parse_all (MessageExt.marshal_parse htag hrec (stampChunk_WF (o := none) trivial hid) he)

/-- `SendForward`: Forward mode with exactly the given entries in order and `size` = their number -/
theorem C02_SendForward (cd pl now ack id) (tag : Bytes) (es : List (Instant × GoVal)) (e : Bytes)
    (htag : lenOK tag) (hn : es.length < 4294967296) (hes : entriesWF es) (hm : recordsAreMaps es) (hid : lenOK id)
    (he : Helper.wire cd pl now ack id (.forward tag es) = some e) :
    parse e = some (Forward.obj tag es (some { size := some es.length, chunk := if ack then id else [] }), []) ∧
    isForward (Forward.obj tag es (some { size := some es.length, chunk := if ack then id else [] })) = true := by
  refine ⟨?_, isForward_obj _ _ _ hm⟩
  simpa only [stampChunk_fresh] using
    parse_all (Forward.marshal_parse htag hn hes (stampChunk_WF (ctorOpts_WF (z := []) hn (Nat.zero_lt_succ _)) hid) he)

/-- `SendPacked`: PackedForward mode — the bin is the concatenation of exactly the given entries'
encodings, the options are `size` (and the chunk id), and there is **no** `compressed` option -/
theorem C02_SendPacked (cd pl now ack id) (tag : Bytes) (es : List (Instant × GoVal)) (e : Bytes)
    (htag : lenOK tag) (hn : es.length < 4294967296) (hes : entriesWF es) (hid : lenOK id)
    (he : Helper.wire cd pl now ack id (.packed tag es) = some e) :
    ∃ stream, marshalPacked es = some stream ∧
      parseSeq es.length stream = some (entriesObjs es, []) ∧
      (lenOK stream →
        parse e = some (Packed.obj tag stream (some { size := some es.length, chunk := if ack then id else [] }), [])) := by
  simp only [Helper.wire, newPacked, Option.map_eq_some_iff] at he
  obtain ⟨m, ⟨s, hs, rfl⟩, rfl⟩ := he
  refine ⟨s, hs, C02_packed_stream es s hes hs, fun hl => ?_⟩
  simpa only [stampChunk_fresh] using parse_all (Packed.marshal_parse (tag := tag) htag hl
    (stampChunk_WF (ack := ack) (ctorOpts_WF (z := []) hn (Nat.zero_lt_succ _)) hid))

/-- `SendCompressed`: CompressedPackedForward — the options say `compressed: gzip` (and `size`, and
the chunk id), and the bin is one complete gzip member of exactly the packed entries -/
theorem C02_SendCompressed (cd pl now ack id) (tag : Bytes) (es : List (Instant × GoVal)) (e : Bytes)
    (htag : lenOK tag) (hn : es.length < 4294967296) (hes : entriesWF es) (hid : lenOK id)
    (he : Helper.wire cd pl now ack id (.compressed tag es) = some e) :
    ∃ plain z, marshalPacked es = some plain ∧
      parseSeq es.length plain = some (entriesObjs es, []) ∧
      cd.gunzipOne z = some (plain, []) ∧
      (lenOK z →
        parse e = some (Packed.obj tag z
          (some { size := some es.length, chunk := if ack then id else [], compressed := vGzip }), [])) := by
  simp only [Helper.wire, newCompressed_eq, Option.map_map, Option.map_eq_some_iff, Function.comp_def] at he
  obtain ⟨s, hs, rfl⟩ := he
  refine ⟨s, cd.member s, hs, C02_packed_stream es s hes hs, cd.gunzipOne_member s, fun hl => ?_⟩
  simpa only [stampChunk_fresh] using parse_all (Packed.marshal_parse (tag := tag) htag hl
    (stampChunk_WF (ack := ack) (ctorOpts_WF (z := vGzip) hn (show _ < _ by decide)) hid))

/-- `SendPackedFromBytes`: the caller's bytes verbatim as the bin, no option but the chunk id -/
theorem C02_SendPackedFromBytes (cd pl now ack id) (tag b : Bytes) (e : Bytes)
    (htag : lenOK tag) (hb : lenOK b) (hid : lenOK id)
    (he : Helper.wire cd pl now ack id (.packedBytes tag b) = some e) :
    parse e = some (Packed.obj tag b (if ack then some { chunk := id } else none), []) := by
  cases he
  simpa only [stampChunk_none] using
    parse_all (Packed.marshal_parse (tag := tag) htag hb (stampChunk_WF (ack := ack) (o := none) trivial hid))

/-- `SendCompressedFromBytes`: `compressed: gzip`, and the bin gunzips to exactly the caller's bytes -/
theorem C02_SendCompressedFromBytes (cd pl now ack id) (tag b : Bytes) (e : Bytes)
    (htag : lenOK tag) (hid : lenOK id)
    (he : Helper.wire cd pl now ack id (.compressedBytes tag b) = some e) :
    ∃ z, cd.gunzipOne z = some (b, []) ∧
      (lenOK z → parse e = some (Packed.obj tag z (some { chunk := if ack then id else [], compressed := vGzip }), [])) := by
  cases he
  refine ⟨cd.member b, cd.gunzipOne_member b, fun hl => ?_⟩
  simpa only [stampChunk_fresh, Compressor.reset, List.nil_append] using parse_all (Packed.marshal_parse (tag := tag) htag hl
    (stampChunk_WF (ack := ack) (o := some { compressed := vGzip }) ⟨nofun, Nat.zero_lt_succ _, show _ < _ by decide⟩ hid))
end FV
