import FluentVerif.Client.TcpLemmas
/-! # C09 — no false success and no torn messages (TCP client; websocket client in C17)

For every message, every configuration and **every fault** of the connection's `Write`:
success ⇒ the connection accepted the whole encoding; the accepted bytes are always a prefix of
the encoding (one `Write` of the complete encoding); any failed or short write ⇒ error; a message
that cannot be encoded ⇒ error and *nothing* reaches the connection. -/
namespace FV.Tcp

theorem C09_ok_all (cfg : Cfg) (s : St) (e : Bytes) (chunk : Bytes) (f : WFault) (resp : Bytes)
    (h : (send cfg s (some e) chunk f resp).2 = .ok) :
    ∃ id, s.session = some (id, true) ∧
      Ev.write id e .ok ∈ newEvents s (send cfg s (some e) chunk f resp).1 := by
  rcases s.session_cases with hs | ⟨id, hs⟩
  · rw [send_idle hs] at h; cases h
  · simp only [send_transport hs] at h ⊢
    have hw := (Out.ite_ok.1 h).1
    rw [newEvents_of_log rfl, hw, doWrite_ok hw]
    exact ⟨id, hs, List.mem_cons_self⟩

theorem C09_prefix (cfg : Cfg) (s : St) (e : Bytes) (chunk : Bytes) (f : WFault) (resp : Bytes)
    (id : Nat) (acc : Bytes) (st : WStatus)
    (h : Ev.write id acc st ∈ newEvents s (send cfg s (some e) chunk f resp).1) : acc <+: e := by
  rcases s.session_cases with hs | ⟨id', hs⟩
  · rw [send_idle hs, newEvents_self] at h; cases h
  · rw [send_transport hs, newEvents_of_log rfl] at h
    rcases List.mem_cons.1 h with h | h
    · cases h; exact doWrite_prefix e f
    · split at h <;> simp at h

theorem C09_fault_err (cfg : Cfg) (s : St) (e : Bytes) (chunk : Bytes) (f : WFault) (resp : Bytes)
    (hf : (doWrite e f).2 ≠ .ok) : (send cfg s (some e) chunk f resp).2 = .err := by
  rcases s.session_cases with hs | ⟨id, hs⟩
  · rw [send_idle hs]
  · simp only [send_transport hs]
    exact if_neg fun c => hf c.1

/-- a failing or short write is never reported as success, in particular -/
theorem C09_fault_cases (e : Bytes) (n : Nat) :
    (doWrite e (.failAfter n)).2 ≠ .ok ∧ (n < e.length → (doWrite e (.short n)).2 ≠ .ok) := by
  refine ⟨by simp [doWrite], ?_⟩
  intro h; simp [doWrite, h]

/-- a message that cannot be encoded: error, and the connection sees nothing -/
theorem C09_unencodable (cfg : Cfg) (s : St) (chunk : Bytes) (f : WFault) (resp : Bytes) :
    send cfg s none chunk f resp = (s, .err) :=
  send_none cfg s chunk f resp

/-- any failure while the ack is read is an error -/
theorem C09_ack_failure (cfg : Cfg) (s : St) (e chunk : Bytes) (f : WFault) (resp : Bytes)
    (hack : cfg.requireAck = true) (hbad : ∀ a r, Ack.unmarshal .stream {} resp ≠ .ok a r) :
    (send cfg s (some e) chunk f resp).2 = .err := by
  rcases s.session_cases with hs | ⟨id, hs⟩
  · rw [send_idle hs]
  · simp only [send_transport hs]
    refine if_neg fun c => ?_
    obtain ⟨a, r, h, _⟩ := acked_iff.1 (c.2 hack)
    exact hbad a r h

theorem C09_raw (s : St) (b : Bytes) (f : WFault) :
    ((sendRaw s b f).2 = .ok → ∃ id, s.session = some (id, true) ∧ (doWrite b f).1 = b) ∧
    ((doWrite b f).2 ≠ .ok → (sendRaw s b f).2 = .err) := by
  rcases s.session_cases with hs | ⟨id, hs⟩
  · rw [sendRaw_idle hs]
    exact ⟨nofun, fun _ => rfl⟩
  · simp only [sendRaw_transport hs]
    exact ⟨fun h => ⟨id, hs, doWrite_ok (Out.ite_ok.1 h)⟩, fun hw => if_neg hw⟩

-- non-vacuity: a write that fails after 3 of 5 bytes is an error and leaves a prefix
example : (send {} { session := some (0, true), conns := [{ closeErr := false }] } (some [1, 2, 3, 4, 5]) [] (.failAfter 3) []) =
    ({ session := some (0, true), conns := [{ closeErr := false }], log := [.write 0 [1, 2, 3] .err] }, .err) := by
  simp [send, doWrite, St.emit]

end FV.Tcp
