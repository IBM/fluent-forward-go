import FluentVerif.Props.C20Lemmas
import FluentVerif.Legacy.Equal
/-! # C20 — `EntryList.Equal` decides multiset equality of entries

`α` is any entry type with decidable equality ("same instant ∧ deeply equal record"). -/
namespace FV.Equal
variable {α : Type} [DecidableEq α]

/-- **C20**: `Equal` returns true exactly when the two lists are permutations of each other
(same entries, same multiplicities, any order) — for all lists of all lengths. -/
theorem C20_iff (l1 l2 : List α) : equal l1 l2 = true ↔ l1.Perm l2 := by
  rw [equal, Bool.and_eq_true, beq_iff_eq, beq_iff_eq, count_full, unused_fresh]
  exact ⟨fun ⟨hl, hf⟩ => (fullMatch_perm l1 l2 hl).1 hf,
    fun hp => ⟨hp.length_eq, (fullMatch_perm l1 l2 hp.length_eq).2 hp⟩⟩

/-- reflexive for every list, including lists with repeated entries -/
theorem C20_refl (l : List α) : equal l l = true := (C20_iff l l).2 (List.Perm.refl l)

/-- symmetric for every pair of lists -/
theorem C20_symm (a b : List α) : equal a b = equal b a :=
  Bool.eq_iff_iff.2 ((C20_iff a b).trans (List.perm_comm.trans (C20_iff b a).symm))

/-- the statement excludes the pinned behaviour: the legacy function disagrees with `Perm` -/
theorem C20_legacy_excluded :
    ¬ (∀ l1 l2 : List Nat, FV.Legacy.equalLegacy l1 l2 = true ↔ l1.Perm l2) := by
  intro h
  have := (h [1, 1] [1, 1]).2 (List.Perm.refl _)
  rw [FV.Legacy.legacy_not_reflexive] at this
  cases this

-- non-vacuity: both directions are exercised by concrete lists with repetition
example : equal [1, 1, 2] [2, 1, 1] = true := by decide
example : equal [1, 1, 2] [1, 2, 3] = false := by decide

end FV.Equal
