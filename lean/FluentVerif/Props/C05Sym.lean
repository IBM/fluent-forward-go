/-! # C05, symbolic level (Dolev–Yao)

Terms, a derivability relation for a peer that can pair, project, hash and invent public names
but cannot invert `hash`, and the handshake's digest formula.  The adversary chooses every HELO
nonce, and has observed every PING of handshakes `0 … i` (salt and digest; hostnames and nonces
are public) and every PONG of honest key-holding servers in **earlier** handshakes `j < i`. -/
namespace FV.Dy

inductive Term where
  | pub (n : Nat)            -- public names: hostnames, nonces, anything the adversary invents
  | salt (i : Nat)           -- the fresh salt of the client's i-th handshake (distinct atoms)
  | key                      -- the shared key
  | pair (a b : Term)
  | hash (t : Term)
deriving DecidableEq, Repr

open Term

def tuple4 (a b c d : Term) : Term := pair a (pair b (pair c d))

/-- digest formula of the protocol: SHA-512(salt ‖ hostname ‖ nonce ‖ key), symbolically -/
def digest (s h n : Term) : Term := hash (tuple4 s h n key)

/-- what a peer can build from a set of known terms -/
inductive Derivable (K : Term → Prop) : Term → Prop where
  | known {t} : K t → Derivable K t
  | pub (n) : Derivable K (pub n)
  | pair {a b} : Derivable K a → Derivable K b → Derivable K (pair a b)
  | fst {a b} : Derivable K (pair a b) → Derivable K a
  | snd {a b} : Derivable K (pair a b) → Derivable K b
  | hash {t} : Derivable K t → Derivable K (hash t)

/-- the non-pair components of a term -/
def parts : Term → List Term
  | pair a b => parts a ++ parts b
  | t => [t]

def Parts (K : Term → Prop) (t : Term) : Prop := ∃ k, K k ∧ t ∈ parts k

inductive Synth (P : Term → Prop) : Term → Prop where
  | base {t} : P t → Synth P t
  | pub (n) : Synth P (pub n)
  | pair {a b} : Synth P a → Synth P b → Synth P (pair a b)
  | hash {t} : Synth P t → Synth P (hash t)

theorem parts_not_pair (k a b : Term) : pair a b ∉ parts k := by
  induction k with
  | pair x y ihx ihy => exact fun h => (List.mem_append.1 h).elim ihx ihy
  | _ => exact fun h => nomatch List.mem_singleton.1 h

theorem synth_of_parts {P : Term → Prop} : ∀ (k : Term), (∀ t, t ∈ parts k → P t) → Synth P k
  | .pub n, _ => .pub n
  | .salt _, h => .base (h _ List.mem_cons_self)
  | .key, h => .base (h _ List.mem_cons_self)
  | .hash _, h => .base (h _ List.mem_cons_self)
  | .pair a b, h =>
    .pair (synth_of_parts a fun t ht => h t (List.mem_append_left _ ht))
          (synth_of_parts b fun t ht => h t (List.mem_append_right _ ht))

/-- a pair is no part of anything, so a synthesis of a pair from parts ends with the pairing -/
theorem synth_pair_inv {K : Term → Prop} {a b : Term} (h : Synth (Parts K) (pair a b)) :
    Synth (Parts K) a ∧ Synth (Parts K) b := by
  cases h with
  | base hp => obtain ⟨k, _, hm⟩ := hp; exact absurd hm (parts_not_pair k a b)
  | pair ha hb => exact ⟨ha, hb⟩

/-- normal form: anything derivable is synthesised from the atomic parts of what is known -/
theorem derivable_synth {K : Term → Prop} {t : Term} (h : Derivable K t) : Synth (Parts K) t := by
  induction h with
  | known hk => exact synth_of_parts _ (fun t ht => ⟨_, hk, ht⟩)
  | pub n => exact .pub n
  | pair _ _ iha ihb => exact .pair iha ihb
  | fst _ ih => exact (synth_pair_inv ih).1
  | snd _ ih => exact (synth_pair_inv ih).2
  | hash _ ih => exact .hash ih

/-- the adversary's knowledge in the client's `i`-th handshake: salts and digests of the PINGs of
handshakes `0 … i`, and the digests of honest servers' PONGs in handshakes `j < i` -/
def Knows (clientHost : Term) (serverHost nonce : Nat → Term) (i : Nat) (t : Term) : Prop :=
  (∃ j, j ≤ i ∧ (t = salt j ∨ t = digest (salt j) clientHost (nonce j))) ∨
  (∃ j, j < i ∧ t = digest (salt j) (serverHost j) (nonce j))

/-- what the adversary has observed are salts and digests, no pairs: its parts are the observations themselves -/
theorem Knows.of_parts {clientHost : Term} {serverHost nonce : Nat → Term} {i : Nat} {t : Term}
    (h : Parts (Knows clientHost serverHost nonce i) t) : Knows clientHost serverHost nonce i t := by
  obtain ⟨k, hk, hm⟩ := h
  have : parts k = [k] := by rcases hk with ⟨j, _, rfl | rfl⟩ | ⟨j, _, rfl⟩ <;> rfl
  rw [this, List.mem_singleton] at hm
  exact hm ▸ hk

/-- **C05, symbolic, partial**: whatever HELO nonces the peer chose in this and all earlier
handshakes, whatever it replays or recombines from the PINGs and honest PONGs it has seen, if a
peer that does not hold the key produces a PONG `(host, d)` the client's check accepts, i.e.
`d = digest (salt i) host (nonce i)`, then `host` is the client's own hostname: the only way in is
to reflect this very handshake's PING. -/
theorem C05_sym_partial (clientHost : Term) (serverHost nonce : Nat → Term)
    (i : Nat) (host : Term)
    (hd : Derivable (Knows clientHost serverHost nonce i) (digest (salt i) host (nonce i))) :
    host = clientHost := by
  cases derivable_synth hd with
  | base hp =>
    -- the digest is one of the observed digests
    rcases Knows.of_parts hp with ⟨j, _, h | h⟩ | ⟨j, hj, h⟩
    · cases h
    · simp only [digest, tuple4, hash.injEq, pair.injEq] at h
      exact h.2.1
    · -- an honest PONG of an earlier handshake carries an earlier salt
      simp only [digest, tuple4, hash.injEq, pair.injEq, salt.injEq] at h
      omega
  | hash hx =>
    -- built by hashing: the peer would have to synthesise the key, which is no pair, hash or public name, so it
    -- would have to be an observation
    cases (synth_pair_inv (synth_pair_inv (synth_pair_inv hx).2).2).2 with
    | base hp => rcases Knows.of_parts hp with ⟨j, _, h | h⟩ | ⟨j, _, h⟩ <;> cases h

/-- … and the reflection does get in: the full statement ("no peer ignorant of the key") is false
of the protocol as implemented — the negation, with its witness -/
theorem C05_reflection_witness (clientHost : Term) (serverHost nonce : Nat → Term) (i : Nat) :
    Derivable (Knows clientHost serverHost nonce i) (digest (salt i) clientHost (nonce i)) :=
  .known (Or.inl ⟨i, Nat.le_refl i, Or.inr rfl⟩)

/-- full statement under the hypothesis the implementation does not enforce: if the client
refused its own hostname, no keyless peer would get in -/
theorem C05_sym_if_own_hostname_refused (clientHost : Term) (serverHost nonce : Nat → Term)
    (i : Nat) (host : Term) (hne : host ≠ clientHost) :
    ¬ Derivable (Knows clientHost serverHost nonce i) (digest (salt i) host (nonce i)) :=
  fun hd => hne (C05_sym_partial clientHost serverHost nonce i host hd)

end FV.Dy
