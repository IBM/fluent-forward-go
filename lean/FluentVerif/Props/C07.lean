import FluentVerif.Proto.Heap
/-! # C07 — returned messages and byte slices are independent values (no hidden sharing) -/
namespace FV.Heap

theorem stable_of_owner {c : Cell} (h : ∀ s, c.owner ≠ .returned s) (h' : ∀ s, c.owner ≠ .arg s) : c.Stable := by
  unfold Cell.Stable
  split
  · next s e => exact absurd e (h s)
  · next s e => exact absurd e (h' s)
  · trivial

theorem inv_modify {s : State} {l : Nat} {f : Cell → Cell} (hi : Inv s)
    (hf : ∀ c, s[l]? = some c → (f c).Stable) : Inv (s.modify l f) := by
  intro c hc
  obtain ⟨i, hc⟩ := List.mem_iff_getElem?.1 hc
  rw [List.getElem?_modify] at hc
  split at hc
  · next e =>
    obtain ⟨c0, hc0, rfl⟩ := Option.map_eq_some_iff.1 hc
    exact hf c0 (e ▸ hc0)
  · exact hi c (List.mem_of_getElem? (i := i) (by simpa using hc))

theorem inv_append {s : State} {c : Cell} (hi : Inv s) (hc : c.Stable) : Inv (s ++ [c]) := by
  intro c' h
  rcases List.mem_append.1 h with h | h
  · exact hi c' h
  · exact List.mem_singleton.1 h ▸ hc

theorem ownerAt_some {s : State} {l : Nat} {o : Owner} (h : ownerAt s l = some o) :
    ∃ c, s[l]? = some c ∧ c.owner = o :=
  Option.map_eq_some_iff.1 h

/-- **one step** of any goroutine preserves "every returned value and every argument is unchanged" -/
theorem inv_step (s : State) (st : Step) (hi : Inv s) : Inv (step s st) := by
  cases st with
  | get t l =>
    cases l with
    | none => exact inv_append hi (stable_of_owner nofun nofun)
    | some l =>
      rw [step]
      split
      · exact inv_modify hi fun c _ => stable_of_owner nofun nofun
      · exact hi
  | write t l content grow =>
    rw [step]
    split
    · next h =>
      -- the cell written to is in flight: no caller holds it
      obtain ⟨c0, hc0, ho⟩ := ownerAt_some h
      split
      · exact inv_append (inv_modify hi fun c _ => stable_of_owner nofun nofun) (stable_of_owner nofun nofun)
      · refine inv_modify hi fun c hc => ?_
        cases hc0.symm.trans hc
        exact stable_of_owner (by rw [ho]; nofun) (by rw [ho]; nofun)
    · exact hi
  | ret t l =>
    rw [step]
    split
    · split
      · exact inv_append hi rfl   -- the copy handed out is its own snapshot
      · exact hi
    · exact hi
  | put t l =>
    rw [step]
    split
    · exact inv_modify hi fun c _ => stable_of_owner nofun nofun
    · exact hi
  | callerArg content => exact inv_append hi rfl
  | readArg t l => exact hi

/-- **C07**: for every sequence *and every interleaving* of get / write / return / put steps of any
number of goroutines, with any pool choices, every value returned earlier and every caller-supplied
argument reads now as it read when it was returned / passed in -/
theorem C07_stable (steps : List Step) : Inv (steps.foldl step []) := by
  suffices ∀ s, Inv s → Inv (steps.foldl step s) from this [] (by intro c h; cases h)
  induction steps with
  | nil => intro s h; exact h
  | cons st rest ih => intro s h; exact ih _ (inv_step s st h)

/-- spelled out for one returned value -/
theorem C07_returned_unchanged (steps : List Step) (c : Cell) (snap : Bytes)
    (hc : c ∈ steps.foldl step []) (ho : c.owner = .returned snap) : c.content = snap := by
  have := C07_stable steps c hc
  simpa [Cell.Stable, ho] using this

theorem C07_args_unchanged (steps : List Step) (c : Cell) (snap : Bytes)
    (hc : c ∈ steps.foldl step []) (ho : c.owner = .arg snap) : c.content = snap := by
  have := C07_stable steps c hc
  simpa [Cell.Stable, ho] using this

/-! the pinned behaviour: the caller received a *view* of the pooled storage (`buf.Bytes()`), i.e.
the location stayed reachable from the pool.  Two sequential calls suffice to change the first
result. -/

/-- legacy state: (storage content of the single pooled buffer, snapshot handed to the first caller) -/
def legacyTwoCalls (first second : Bytes) : Bytes × Bytes :=
  let pooled := first            -- call 1: Reset, write `first`, return a view, Put
  let view1Snapshot := pooled
  let pooled := second           -- call 2: Get the same buffer, Reset, write `second`
  (pooled, view1Snapshot)        -- what the first caller's view reads now, and what it read at return

theorem C07_legacy_witness : (legacyTwoCalls [1] [2]).1 ≠ (legacyTwoCalls [1] [2]).2 := by decide

-- non-vacuity: a schedule in which a buffer is reused by another goroutine after its content was returned
example :
    let s := [Step.get 0 none, .write 0 0 [1] false, .ret 0 0, .put 0 0, .get 1 (some 0), .write 1 0 [2] false].foldl step []
    (s.map (·.content)) = [[2], [1]] := by decide

end FV.Heap
