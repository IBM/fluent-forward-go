import FluentVerif.Proto.Chunk
import FluentVerif.Msgp.Sound
import FluentVerif.Msgp.Ext32
import FluentVerif.Forward.SpecLemmas
/-! The timestamp test of the `GetChunk` walker (`NextType`) on a complete value the specification parser
has found, and the walker's key loop against the specification's lookup. -/
namespace FV
open Spec

theorem isTimestampType_of_parse {b v r} (h : parse b = some (v, r)) :
    isTimestampType b = (match v with | .int _ => true | .ext t _ => (t != 3 && t != 4 && t != 5) | _ => false) := by
  have h := parse_iff.1 h
  cases v with
  | arr xs => obtain ⟨r0, hh, _⟩ := h; simp [isTimestampType, hh]
  | map xs => obtain ⟨n, r0, hh, _⟩ := h; simp [isTimestampType, hh]
  | _ => simp [isTimestampType, show header b = _ from h]

/-- option keys GetChunk is specified for: non-empty strings -/
def KeysOK : Objs → Prop
  | .nil => True
  | .cons k (.cons _ r) => (∃ s, k = .str s ∧ s ≠ []) ∧ KeysOK r
  | .cons _ .nil => False

/-- outcome of the walker expressed against a specification-level answer -/
def Agrees (res : Res Bytes) (want : Option Bytes) : Prop :=
  match want with
  | some c => ∃ r, res = .ok c r
  | none => res = .err

/-- `GetChunk` reads from a stream, so a run it walks over is one without ext32 tokens.  `Run (Path.stream = .stream)`, not `Run True`:
`Run.cons` then holds `skipP_of_parse`'s hypothesis `p = .stream → …` as it stands -/
theorem getChunkKeys_run (n : Nat) : ∀ {b kvs r}, Run (Path.stream = .stream) (2*n) b kvs r → KeysOK kvs →
    Agrees (getChunkKeys n b) (chunkOfKVs kvs) := by
  induction n with
  | zero => intro _ _ _ w _; cases w; rfl
  | succ n ih =>
    intro _ _ _ w hk
    cases (show Run _ (2*n+1+1) _ _ _ from w) with | cons pk _ w1 =>
    cases w1 with | @cons _ _ v _ _ _ pv hxv w2 =>
    obtain ⟨⟨s, rfl, hne⟩, hk⟩ := hk
    rw [getChunkKeys, readMapKey_of_parse_str _ pk hne, chunkOfKVs_cons]
    -- the walker tests `s = kChunk` (`Proto/Types`), the lookup `s = sChunk` (`Forward/Spec`): the same bytes, and the
    -- `show` identifies them by defeq so that one `split` decides both
    show Agrees (if s = sChunk then _ else _) _
    split
    · rw [readMapKey_bytes_of_parse pv]; cases v <;> first | exact ⟨_, rfl⟩ | rfl
    · rw [skipP_of_parse pv hxv]; exact ih w2 hk

theorem getChunkKeys_agrees : ∀ (n : Nat) (b : Bytes) (kvs : Objs) (r : Bytes),
    parseSeq (2*n) b = some (kvs, r) → KeysOK kvs → ext32Seq (2*n) b = false →
    Agrees (getChunkKeys n b) (chunkOfKVs kvs) := fun n _ _ _ h hk hx =>
  getChunkKeys_run n (.of_seq h fun _ => hx) hk

end FV
