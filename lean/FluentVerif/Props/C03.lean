import FluentVerif.Props.C01
import FluentVerif.Props.C02
/-! # C03 — packed and gzip-compressed event streams carry exactly the given entries -/
namespace FV

/-- `UnmarshalPacked` of a packed stream (plus nothing) returns the entries, in order -/
theorem unmarshalPackedF_marshal : ∀ (es : List (Instant × GoVal)) (eb : Bytes) (f : Nat) (acc : List EntryExt),
    entriesWF es → marshalEntries es = some eb → eb.length < f →
    unmarshalPackedF f eb acc = (acc.reverse ++ entriesNorm es, true)
  | _, _, 0, _, _, _, hf => nomatch hf
  | [], _, f+1, acc, _, he, _ => by cases he; simp [unmarshalPackedF, entriesNorm]
  | (t, r) :: es, _, f+1, acc, hw, he, hf => by
    obtain ⟨a, b, ha, hb, rfl⟩ := marshalEntries_cons he
    have h1 := C01_EntryExt .bytes {} _ _ _ b hw.1 hw.2.1 ha
    -- reading the entry consumed something: the loop does not stop here, and the fuel is enough for the rest
    have hlt := (EntryExt.unmarshal_reads.2 _ _ h1).lt
    rw [unmarshalPackedF, if_neg (mt List.isEmpty_iff.1 (List.ne_nil_of_length_pos (Nat.zero_lt_of_lt hlt))), h1]
    simp only
    rw [unmarshalPackedF_marshal es b f _ hw.2.2 hb (by omega)]
    simp [entriesNorm]

/-- **packed**: the stream is the concatenation, in order, of the encodings of exactly those
entries (each read back by the specification parser as `[EventTime, record]`), the size option is
the number of entries, and unpacking returns the list -/
theorem C03_packed (tag : Bytes) (es : List (Instant × GoVal)) (m : Packed) (hes : entriesWF es)
    (h : newPacked tag es = some m) :
    parseSeq es.length m.stream = some (entriesObjs es, []) ∧
    m.options = some { size := some es.length } ∧
    unmarshalPacked m.stream = (entriesNorm es, true) := by
  simp only [newPacked, Option.map_eq_some_iff] at h
  obtain ⟨s, hs, rfl⟩ := h
  exact ⟨C02_packed_stream es s hes hs, rfl, unmarshalPackedF_marshal es s (s.length + 1) [] hes hs (Nat.lt_succ_self _)⟩

/-- **compressed, FromBytes**: whatever state the recycled compressor was left in (any buffer
content, member open, closed, never used), the message carries exactly one complete gzip member
that decompresses to exactly the caller's bytes, with nothing after it, flagged compressed=gzip -/
theorem C03_compressed_fromBytes (cd : Codec) (pooled : Compressor) (tag payload : Bytes) :
    ∃ m, newCompressedFromBytes cd pooled tag payload = some m ∧
      cd.gunzipOne m.stream = some (payload, []) ∧
      m.options = some { compressed := vGzip } :=
  -- `rfl` for any `pooled`: `Compressor.reset` discards its state
  ⟨_, rfl, cd.gunzipOne_member payload, rfl⟩

/-- **compressed, from entries**: decompresses to exactly the bytes of the uncompressed variant -/
theorem C03_compressed (cd : Codec) (pooled : Compressor) (tag : Bytes) (es : List (Instant × GoVal))
    (plain : Packed) (hp : newPacked tag es = some plain) :
    ∃ m, newCompressed cd pooled tag es = some m ∧
      cd.gunzipOne m.stream = some (plain.stream, []) ∧
      m.options = some { size := some es.length, compressed := vGzip } := by
  simp only [newPacked, Option.map_eq_some_iff] at hp
  obtain ⟨s, hs, rfl⟩ := hp
  exact ⟨_, by rw [newCompressed_eq, hs]; rfl, cd.gunzipOne_member s, rfl⟩

/-- the result does not depend on the pool history at all -/
theorem C03_history_independent (cd : Codec) (p₁ p₂ : Compressor) (tag payload : Bytes) :
    newCompressedFromBytes cd p₁ tag payload = newCompressedFromBytes cd p₂ tag payload := rfl

-- non-vacuity: the `Codec` interface is satisfiable (a toy self-delimiting code: each payload byte
-- is preceded by 1, the member ends with 0)
def toyMember : Bytes → Bytes
  | [] => [0]
  | b :: p => 1 :: b :: toyMember p
def toyGunzip : Bytes → Option (Bytes × Bytes)
  | 0 :: r => some ([], r)
  | 1 :: b :: r => (toyGunzip r).map fun (p, rest) => (b :: p, rest)
  | _ => none
theorem toy_sound : ∀ p rest, toyGunzip (toyMember p ++ rest) = some (p, rest)
  | [], rest => by simp [toyMember, toyGunzip]
  | b :: p, rest => by simp [toyMember, toyGunzip, toy_sound p rest]
def toyCodec : Codec := { member := toyMember, gunzipOne := toyGunzip, sound := toy_sound }
example : (newCompressedFromBytes toyCodec { buffer := [9, 9], openMember := some [7] } [] [1, 2]).bind
    (fun m => toyCodec.gunzipOne m.stream) = some ([1, 2], []) := by decide

end FV
