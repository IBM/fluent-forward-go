import FluentVerif.Client.TcpLemmas
import FluentVerif.Props.C12
import FluentVerif.Props.C01
/-! # C04 — ack: Send succeeds exactly when the peer acknowledges this message's chunk

The response the peer delivers before silence / EOF / the deadline enters the model as the
concatenation `resp` of its fragments: `msgp.Reader` presents the connection as a byte stream, so
the result cannot depend on how the bytes were split in transit (an assumption about the
dependency; the correspondence delivers matching acks split at every byte boundary). -/
namespace FV.Tcp

/-- with acknowledgements required, in transport phase: success ⇔ every byte of the encoding was
accepted ∧ the response starts with a map the ack decoder accepts whose `ack` equals the chunk id
this message carries -/
theorem C04_success_iff (cfg : Cfg) (s : St) (id : Nat) (e chunk : Bytes) (f : WFault) (resp : Bytes)
    (hs : s.session = some (id, true)) (hack : cfg.requireAck = true) :
    (send cfg s (some e) chunk f resp).2 = .ok ↔
      ((doWrite e f).2 = .ok ∧ ∃ a r, Ack.unmarshal .stream {} resp = .ok a r ∧ a.ack = chunk) := by
  simp only [send_transport hs]
  rw [← acked_iff, Out.ite_ok]
  exact ⟨fun c => ⟨c.1, c.2 hack⟩, fun c => ⟨c.1, fun _ => c.2⟩⟩

/-- wrong id, empty map, non-map, truncated, EOF, silence: all of them are "no accepted ack with
this chunk", hence an error -/
theorem C04_bad_response (cfg : Cfg) (s : St) (id : Nat) (e chunk : Bytes) (f : WFault) (resp : Bytes)
    (hs : s.session = some (id, true)) (hack : cfg.requireAck = true)
    (hbad : ∀ a r, Ack.unmarshal .stream {} resp = .ok a r → a.ack ≠ chunk) :
    (send cfg s (some e) chunk f resp).2 = .err := by
  simp only [send_transport hs]
  refine if_neg fun c => ?_
  obtain ⟨a, r, h, ha⟩ := acked_iff.1 (c.2 hack)
  exact hbad a r h ha

/-- with a timeout configured, a read deadline is armed after the write and before the response is
looked at: a silent peer becomes a timeout error instead of a hang -/
theorem C04_deadline_armed (cfg : Cfg) (s : St) (id : Nat) (e chunk : Bytes) (resp : Bytes)
    (hs : s.session = some (id, true)) (hack : cfg.requireAck = true) (ht : cfg.timeout = true) :
    (send cfg s (some e) chunk .none resp).1.log = s.log ++ [.write id e .ok, .deadline id] := by
  simp only [send_transport hs, hack, ht, doWrite, St.emits, and_self, if_true]

/-- the id awaited is the id the server sees: for a message whose `Chunk()` returned `id`, the
option map of the encoding — as the specification parser reads it — carries `id` (`C12_carried_Message`);
so "acknowledges this chunk" is about the bytes on the wire -/
theorem C04_chunk_on_wire (tag ts rec) (opts : Option Options) (draw : Bytes) (hd : draw ≠ []) :
    Spec.chunkOf (Message.obj tag ts rec (chunkCall opts draw).1) = some (chunkCall opts draw).2 :=
  C12_carried_Message tag ts rec opts draw hd

/-- sequences: every send is judged against its own chunk and its own response — `send` reads
nothing but its arguments and the session -/
theorem C04_sequences (cfg : Cfg) (s₁ s₂ : St) (enc chunk f resp) (h : s₁.session = s₂.session) :
    (send cfg s₁ enc chunk f resp).2 = (send cfg s₂ enc chunk f resp).2 := by
  rcases s₁.session_cases with hs | ⟨id, hs⟩
  · rw [send_idle hs, send_idle (h ▸ hs)]
  · cases enc with
    | none => rw [send_none, send_none]
    | some e => rw [send_transport hs, send_transport (h ▸ hs)]

-- non-vacuity: the matching ack `{"ack": "x"}` is accepted, another id is not
example : (send { requireAck := true } { session := some (0, true), conns := [{ closeErr := false }] } (some [0xc0]) [0x78] .none
    [0x81, 0xa3, 0x61, 0x63, 0x6b, 0xa1, 0x78]).2 = .ok := by decide
example : (send { requireAck := true } { session := some (0, true), conns := [{ closeErr := false }] } (some [0xc0]) [0x79] .none
    [0x81, 0xa3, 0x61, 0x63, 0x6b, 0xa1, 0x78]).2 = .err := by decide

/-- **a conforming matching ack yields success, in whatever legal msgpack form it arrives**: if the
specification parser finds, at the front of what the peer sent, a map with non-empty string keys whose
`ack` entries are strings (any header class, entries in any order, further entries of any shape but
without a token in the ext32 format, on which msgp's stream `Skip` fails)
and the last `ack` entry is this chunk, and every byte of the message was accepted, then `Send`
succeeds -/
theorem C04_conforming_ack (cfg : Cfg) (s : St) (id : Nat) (e chunk : Bytes) (f : WFault) (resp rest : Bytes)
    (kvs : Objs) (hs : s.session = some (id, true)) (hack : cfg.requireAck = true)
    (hw : (doWrite e f).2 = .ok) (hp : parse resp = some (.map kvs, rest)) (hk : KVsOK ackOK kvs)
    (hx : hasExt32 resp = false)
    (hc : (foldKVs ackApply kvs {}).ack = chunk) :
    (send cfg s (some e) chunk f resp).2 = .ok :=
  (C04_success_iff cfg s id e chunk f resp hs hack).2
    ⟨hw, _, _, C01_alt_Ack .stream {} _ _ _ hp hk fun _ => hx, hc⟩

/-- why the empty chunk id has to be refused before the send: a response map without any `ack` entry decodes to the empty id, so
for the empty id *every* ack-less map would count as its acknowledgement (a caller-built raw message whose chunk option is present
and empty, answered by `{}`) -/
theorem C04_empty_id_witness :
    (send { requireAck := true } { session := some (0, true), conns := [{ closeErr := false }] } (some [0x90]) [] .none [0x80]).2 = .ok := by
  decide

/-- for every other id, success means the peer's response carried a non-empty `ack` entry equal to it -/
theorem C04_success_nonempty (cfg : Cfg) (s : St) (id : Nat) (e chunk : Bytes) (f : WFault) (resp : Bytes)
    (hs : s.session = some (id, true)) (hack : cfg.requireAck = true) (hne : chunk ≠ [])
    (h : (send cfg s (some e) chunk f resp).2 = .ok) :
    ∃ a r, Ack.unmarshal .stream {} resp = .ok a r ∧ a.ack = chunk ∧ a.ack ≠ [] := by
  obtain ⟨_, a, r, ha, hc⟩ := (C04_success_iff cfg s id e chunk f resp hs hack).1 h
  exact ⟨a, r, ha, hc, hc ▸ hne⟩

end FV.Tcp
