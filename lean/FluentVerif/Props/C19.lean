import FluentVerif.Proto.EventTimeLemmas
/-! # C19 — EventTime preserves the instant to the nanosecond, independent of time zone -/
namespace FV

/-- encode then decode returns the same instant to the nanosecond, for every instant whose Unix
seconds fit in 32 unsigned bits -/
theorem C19_roundtrip (t : Instant) (h : t.InDomain) :
    (decodeET (encodeET t)).map (fun u => (u.sec, u.nsec)) = some (t.sec, t.nsec) := by
  rw [decodeET_encodeET t h]; rfl

/-- the encoding depends only on the instant, not on the zone it is expressed in -/
theorem C19_zone (t : Instant) (z : Int) : encodeET { t with zone := z } = encodeET t := rfl

/-- payloads that are not exactly eight bytes are rejected -/
theorem C19_length (p : Bytes) (h : p.length ≠ 8) : decodeET p = none := by simp [decodeET, h]

/-- re-encoding a decoded payload reproduces it bit for bit when its nanosecond field is < 10^9 -/
theorem C19_payload (p : Bytes) (hl : p.length = 8) (hn : beVal (p.drop 4) < 1000000000) :
    (decodeET p).map encodeET = some p := by
  have h4 : (p.take 4).length = 4 := by simp [hl]
  have h4' : (p.drop 4).length = 4 := by simp [hl]
  have b1 := beVal_lt (p.take 4)
  have r1 := be_beVal (p.take 4)
  have r2 := be_beVal (p.drop 4)
  rw [h4] at b1 r1; rw [h4'] at r2
  rw [decodeET, if_neg (· hl)]
  simp only [Nat.div_eq_of_lt hn, Nat.mod_eq_of_lt hn, Int.natCast_zero, Int.add_zero, Option.map_some]
  -- the decoded instant is in the domain, where `encodeET` writes its two fields as they are
  rw [encodeET_eq _ (by simp only [Instant.InDomain]; omega), Int.toNat_natCast, r1, r2, List.take_append_drop]

/-- order: on the domain, comparing (sec, nsec) lexicographically is comparing the 64-bit
big-endian reading of the eight payload bytes -/
theorem C19_order (t u : Instant) (ht : t.InDomain) (hu : u.InDomain) :
    (t.sec < u.sec ∨ (t.sec = u.sec ∧ t.nsec < u.nsec)) ↔
    beVal (encodeET t) < beVal (encodeET u) := by
  rw [beVal_encodeET t ht, beVal_encodeET u hu]
  obtain ⟨a0, a1, a2⟩ := ht
  obtain ⟨b0, b1, b2⟩ := hu
  omega

-- the domain reaches the last second and nanosecond the format has, whatever the zone; a round trip by evaluation
example : ({ sec := 4294967295, nsec := 999999999, zone := 3600 } : Instant).InDomain := by decide
example : decodeET (encodeET { sec := 1, nsec := 2 }) = some { sec := 1, nsec := 2 } := by decide

end FV
