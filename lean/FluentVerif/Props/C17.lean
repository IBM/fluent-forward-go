import FluentVerif.Client.Ws
/-! # C17 — websocket client: one frame per message, sticky read errors, safe lifecycle
(sequential half; race freedom over all schedules is `Tie.C17_race_free`) -/
namespace FV.WsC

/-- frames on connection `i` -/
def framesOf (s : St) (i : Nat) : List (Nat × Bytes) := (s.conns[i]?).map (·.frames) |>.getD []

theorem modConn_frames_other (s : St) (i j : Nat) (f : Sess → Sess) (h : i ≠ j) :
    framesOf (modConn s i f) j = framesOf s j := by
  simp [framesOf, modConn, h]

theorem modConn_frames_same (s : St) (i : Nat) (f : Sess → Sess) (c : Sess) (h : s.conns[i]? = some c) :
    framesOf (modConn s i f) i = (f c).frames := by
  simp [framesOf, modConn, h]

/-- `writeFrame` refuses and leaves everything as it is, unless there is no sticky error, the session's
connection is open and the write does not fail: then that connection gets one more binary frame -/
theorem writeFrame_cases (s : St) (b : Bytes) (fails : Bool) :
    writeFrame s b fails = (s, .err) ∨
    ∃ i, s.sticky = false ∧ s.session = some i ∧ isOpen s i = true ∧ fails = false ∧
      writeFrame s b fails = (modConn s i fun c => { c with frames := c.frames ++ [(binaryFrame, b)] }, .ok) := by
  unfold writeFrame
  cases hst : s.sticky
  · rcases hs : s.session with _ | i
    · exact .inl rfl
    · dsimp only
      cases ho : isOpen s i
      · exact .inl rfl
      · cases fails
        · exact .inr ⟨i, rfl, rfl, ho, rfl, rfl⟩
        · exact .inl rfl
  · exact .inl rfl

/-- **one frame**: a successful Send / SendRaw hands the session's connection exactly one more
frame, a binary frame carrying exactly the given bytes (the complete encoding / the caller's bytes),
and touches no other connection -/
theorem C17_one_frame (s : St) (b : Bytes) (fails : Bool) (h : (writeFrame s b fails).2 = .ok) :
    ∃ i, s.session = some i ∧
      framesOf (writeFrame s b fails).1 i = framesOf s i ++ [(binaryFrame, b)] ∧
      ∀ j, j ≠ i → framesOf (writeFrame s b fails).1 j = framesOf s j := by
  rcases writeFrame_cases s b fails with e | ⟨i, _, hs, ho, _, e⟩ <;> rw [e] at h ⊢
  · cases h
  · refine ⟨i, hs, ?_, fun j hj => modConn_frames_other s i j _ (Ne.symm hj)⟩
    unfold isOpen at ho
    cases hc : s.conns[i]? with
    | none => simp [hc] at ho
    | some c => rw [modConn_frames_same s i _ c hc]; simp [framesOf, hc]

theorem C17_send_one_frame (s : St) (e : Bytes) (fails : Bool) (h : (step s (.send (some e) fails)).2 = .ok) :
    ∃ i, s.session = some i ∧ framesOf (step s (.send (some e) fails)).1 i = framesOf s i ++ [(binaryFrame, e)] := by
  rw [step] at h ⊢
  by_cases hst : s.sticky = true
  · rw [if_pos hst] at h; cases h
  · rw [if_neg hst] at h ⊢
    obtain ⟨i, h1, h2, _⟩ := C17_one_frame s e fails h
    exact ⟨i, h1, h2⟩

/-- a failed frame write, an unencodable message: error, and no data frame anywhere (C09, websocket half) -/
theorem C17_failed_write (s : St) (b : Bytes) : (writeFrame s b true).2 = .err ∧ (writeFrame s b true).1 = s := by
  rcases writeFrame_cases s b true with e | ⟨_, _, _, _, hf, _⟩
  · rw [e]; exact ⟨rfl, rfl⟩
  · cases hf

theorem C17_unencodable (s : St) (fails : Bool) : step s (.send none fails) = (s, .err) := by
  simp only [step]; split <;> rfl

/-- **sticky**: once the reader of the session ended with an error, every later Send / SendRaw
returns an error and writes nothing … -/
theorem C17_sticky (s : St) (b : Bytes) (fails : Bool) (h : s.sticky = true) : writeFrame s b fails = (s, .err) := by
  rcases writeFrame_cases s b fails with e | ⟨_, hst, _⟩
  · exact e
  · cases h.symm.trans hst

/-- … the error is set by a reader ending with anything but a normal closure … -/
theorem C17_sticky_set (s : St) (k : EndKind) (i : Nat) (hs : s.session = some i) (ho : isOpen s i = true)
    (hk : k ≠ .normal) : (step s (.listenerEnds k)).1.sticky = true := by
  simp only [step, hs, ho, Bool.not_true, Bool.false_eq_true, ite_false]
  simp_all [modConn]

/-- … survives everything except a successful Reconnect, which clears it -/
theorem C17_sticky_persists (s : St) (op : Op) (h : s.sticky = true)
    (hop : ∀ d n, op ≠ .reconnect d n) : (step s op).1.sticky = true := by
  cases op with
  | connect d n =>
    rw [step]; split
    · exact h
    · cases d <;> cases n <;> exact h
  | disconnect =>
    show (closeCurrent s).sticky = true
    rw [closeCurrent]; split
    · split <;> exact h
    · exact h
  | reconnect d n => exact absurd rfl (hop d n)
  | send enc f => simp only [step, h, if_true]
  | sendRaw b f => rw [step, C17_sticky s b f h]; exact h
  | listenerEnds k =>
    rw [step]; split
    · exact h
    · split
      · exact h
      · exact Bool.or_eq_true_iff.2 (.inl h)

theorem C17_reconnect_clears (s : St) (h : (step s (.reconnect true true)).2 = .ok) :
    (step s (.reconnect true true)).1.sticky = false := by
  simp [step, connect]

/-- sends without a live session fail and write nothing -/
theorem C17_no_session (s : St) (b : Bytes) (fails : Bool) (h : s.session = none) : writeFrame s b fails = (s, .err) := by
  rcases writeFrame_cases s b fails with e | ⟨_, _, hs, _⟩
  · exact e
  · cases h.symm.trans hs

theorem C17_closed_session (s : St) (b : Bytes) (fails : Bool) (i : Nat) (h : s.session = some i) (hc : isOpen s i = false) :
    writeFrame s b fails = (s, .err) := by
  rcases writeFrame_cases s b fails with e | ⟨_, _, hs, ho, _⟩
  · exact e
  · cases h.symm.trans hs
    cases hc.symm.trans ho

/-- Connect on an active session fails without dialing -/
theorem C17_connect_active (s : St) (d n : Bool) (h : s.session.isSome) : step s (.connect d n) = (s, .err) := by
  simp [step, h]

/-- a failed Reconnect leaves no session behind -/
theorem C17_failed_reconnect (s : St) (d n : Bool) (h : (step s (.reconnect d n)).2 ≠ .ok) :
    (step s (.reconnect d n)).1.session = none := by
  simp only [step] at h ⊢
  split at h
  · simp at h
  · simp_all

/-- Disconnect always leaves no session -/
theorem C17_disconnect (s : St) : (step s .disconnect).1.session = none := by simp [step]

-- non-vacuity: once the listener has ended abnormally a write is refused (`[2]` is in no frame); after the reconnect the
-- next one goes to the second connection
example : (run {} [.connect true true, .sendRaw [1] false, .listenerEnds .abnormal, .sendRaw [2] false,
    .reconnect true true, .sendRaw [3] false]).conns.map (·.frames) = [[(2, [1])], [(2, [3])]] := by decide

end FV.WsC
