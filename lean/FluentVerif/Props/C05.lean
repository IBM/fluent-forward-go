import FluentVerif.Client.TcpLemmas
import FluentVerif.Props.C01
/-! # C05 — handshake completes only with a peer that proves knowledge of the shared key

Byte level, with the hex SHA-512 digest `H` uninterpreted.  (Symbolic level: `C05Sym.lean`.) -/
namespace FV.Tcp

/-- the client is in transport phase after `Handshake` **iff** a session exists, the HELO decodes
and carries options, the PING was accepted by the connection, the PONG decodes, says
auth_result=true and carries hex(H(salt ‖ server_hostname ‖ nonce ‖ key)) for the salt sent in
*this* handshake and the nonce of *this* HELO (starting from a session not yet in transport phase) -/
theorem C05_accept_iff (H : Bytes → Bytes) (cfg : Cfg) (s : St) (id : Nat) (helo salt pong : Bytes) (f : WFault)
    (hs : s.session = some (id, false)) :
    (handshake H cfg s helo salt pong f).1.session = some (id, true) ↔
      ∃ h rest0 ho p rest,
        Helo.unmarshal .stream {} helo = .ok h rest0 ∧ h.options = some ho ∧
        (doWrite (pingMsg H cfg salt ho.nonce).marshal f).2 = .ok ∧
        Pong.unmarshal .stream {} (rest0 ++ pong) = .ok p rest ∧
        p.authResult = true ∧ p.digest = H (salt ++ p.hostname ++ ho.nonce ++ cfg.sharedKey.getD []) := by
  constructor
  · intro h
    rcases handshake_cases H cfg s helo salt pong f with e | ⟨_, _, _, ⟨_, _, e⟩ | ⟨ho, -, hl, rest0, p, rest, hh, hho, hw, hp, hacc⟩⟩
    · rw [e] at h; cases hs.symm.trans h
    · rw [e] at h; cases hs.symm.trans h
    · simp only [pongAccepted, Bool.and_eq_true, beq_iff_eq] at hacc
      exact ⟨hl, rest0, ho, p, rest, hh, hho, hw, hp, hacc⟩
  · rintro ⟨hl, rest0, ho, p, rest, hh, hho, hw, hp, ha, hd⟩
    simp [handshake, hs, hh, hho, hw, hp, pongAccepted, ha, hd]

/-- success is reported exactly in that case -/
theorem C05_ok_iff (H : Bytes → Bytes) (cfg : Cfg) (s : St) (id : Nat) (helo salt pong : Bytes) (f : WFault)
    (hs : s.session = some (id, false)) :
    (handshake H cfg s helo salt pong f).2 = .ok ↔ (handshake H cfg s helo salt pong f).1.session = some (id, true) := by
  rcases handshake_cases H cfg s helo salt pong f with e | ⟨id', _, hs', ⟨_, _, e⟩ | ⟨_, e, -⟩⟩ <;> rw [e]
  · exact ⟨nofun, fun h => nomatch hs.symm.trans h⟩
  · exact ⟨nofun, fun h => nomatch hs.symm.trans h⟩
  · cases hs.symm.trans hs'
    exact ⟨fun _ => rfl, fun _ => rfl⟩

/-- the PING the client puts on the wire -/
theorem C05_ping (H : Bytes → Bytes) (cfg : Cfg) (salt nonce : Bytes) :
    pingMsg H cfg salt nonce =
      { mtype := [0x50, 0x49, 0x4e, 0x47], hostname := cfg.hostname, salt := salt,
        digest := H (salt ++ cfg.hostname ++ nonce ++ cfg.sharedKey.getD []), username := [], password := [] } := rfl

/-- a server holding the same key validates the client's PING -/
theorem C05_server_accepts_ping (H : Bytes → Bytes) (cfg : Cfg) (salt nonce : Bytes) :
    validatePing H (pingMsg H cfg salt nonce) (cfg.sharedKey.getD []) nonce = true := by
  simp [validatePing, pingMsg, hexDigest]

/-- a server holding any other key rejects it, unless `H` collides on the two inputs -/
theorem C05_other_key_rejects (H : Bytes → Bytes) (cfg : Cfg) (salt nonce key' : Bytes)
    (hcf : H (salt ++ cfg.hostname ++ nonce ++ cfg.sharedKey.getD []) ≠ H (salt ++ cfg.hostname ++ nonce ++ key')) :
    validatePing H (pingMsg H cfg salt nonce) key' nonce = false := by
  simp only [validatePing, pingMsg, hexDigest, beq_eq_false_iff_ne, ne_eq]
  exact hcf

/-- the PONG an honest server builds with `NewPong(true, …)` is accepted by the client's check -/
theorem C05_honest_pong_accepted (H : Bytes → Bytes) (cfg : Cfg) (salt nonce reason shost : Bytes) :
    pongAccepted H cfg salt nonce (newPong H true reason shost (cfg.sharedKey.getD []) nonce (pingMsg H cfg salt nonce)) = true := by
  simp [pongAccepted, newPong, pingMsg, hexDigest]

/-- `ValidatePongDigest` accepts exactly the digests of the formula -/
theorem C05_validatePong_iff (H : Bytes → Bytes) (p : Pong) (key nonce salt : Bytes) :
    validatePong H p key nonce salt = true ↔ p.digest = H (salt ++ p.hostname ++ nonce ++ key) := by
  simp [validatePong, hexDigest]

/-- end to end: an honest exchange (HELO with options, PING accepted, honest PONG) puts the client
into transport phase -/
theorem C05_honest_handshake (H : Bytes → Bytes) (cfg : Cfg) (s : St) (id : Nat) (ho : HeloOpts) (salt reason shost : Bytes)
    (hs : s.session = some (id, false)) (hho : ho.WF) (hr : lenOK reason) (hh : lenOK shost)
    (hd : lenOK (H (salt ++ shost ++ ho.nonce ++ cfg.sharedKey.getD []))) :
    (handshake H cfg s (Helo.marshal { mtype := [0x48, 0x45, 0x4c, 0x4f], options := some ho }) salt
      (newPong H true reason shost (cfg.sharedKey.getD []) ho.nonce (pingMsg H cfg salt ho.nonce)).marshal .none).1.session
      = some (id, true) := by
  have h1 := C01_Helo .stream { mtype := [0x48, 0x45, 0x4c, 0x4f], options := some ho } (by simp [lenOK]) hho []
  have h2 := C01_Pong .stream {} (newPong H true reason shost (cfg.sharedKey.getD []) ho.nonce (pingMsg H cfg salt ho.nonce))
    ⟨by simp [newPong, lenOK], hr, hh, hd⟩ []
  rw [List.append_nil] at h1 h2
  -- the PONG that `newPong` builds says auth_result = true and carries the digest of the formula, both by definition
  exact (C05_accept_iff H cfg s id _ _ _ _ hs).2 ⟨_, _, ho, _, _, h1, rfl, rfl, h2, rfl, rfl⟩

/-- the reflection at byte level: a peer that echoes the client's own hostname and PING digest is
accepted although it never used the key — the negation of "no peer ignorant of the key", recorded
as the open finding C05-reflection -/
theorem C05_reflection_accepted (H : Bytes → Bytes) (cfg : Cfg) (salt nonce : Bytes) :
    pongAccepted H cfg salt nonce
      { mtype := [0x50, 0x4f, 0x4e, 0x47], authResult := true, reason := [],
        hostname := (pingMsg H cfg salt nonce).hostname, digest := (pingMsg H cfg salt nonce).digest } = true := by
  simp [pongAccepted, pingMsg]

end FV.Tcp
