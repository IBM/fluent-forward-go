import FluentVerif.Proto.RoundTripHs
import FluentVerif.Props.C13
import FluentVerif.Proto.DecodeComplete
/-! # C01 — round-trip fidelity of every message kind through both codec paths

For every representable message `m` (explicit well-formedness hypotheses: lengths and counts below
2^32, timestamps in int64, EventTimes in the 32-bit-second domain, records built from
msgpack-representable values with any nesting) the encoding `e` produced by the repository's
encoder, followed by **any** bytes `x`, decoded by **either** decoder path `p` into **any**
receiver, yields the original value (records normalised to the msgpack data model by `toObj`,
instants by `norm`) and leaves exactly `x`.  One encoder definition serves `MarshalMsg` and
`EncodeMsg`; that both produce these bytes is what the correspondence checks on every run.
A decoder that never skips a value (Entry, EntryExt, Ping, Pong) accepts every encoding of its object
whatever the path (`C01_alt_*`), so its round trip is that applied to the object the encoder writes
(`T.marshal_parse`); a decoder that may skip
(`Skip` in a map's `default:` case) would need the encoder's bytes to be free of ext32 tokens on the
stream path, and is run on those bytes directly. -/
namespace FV

theorem C01_Message (p : Path) (recv : Message) (tag : Bytes) (ts : Int) (rec : GoVal) (opts : Option Options)
    (e x : Bytes) (htag : lenOK tag) (hts : inInt64 ts) (hrec : rec.WF) (hopts : optPtrWF opts)
    (he : Message.marshal tag ts rec opts = some e) :
    Message.unmarshal p recv (e ++ x) = .ok { tag := tag, ts := ts, record := rec.toObj, options := opts } x := by
  simp only [Message.marshal, Option.map_eq_some_iff] at he
  obtain ⟨rb, hrb, rfl⟩ := he
  simp only [List.cons_append, List.nil_append, List.append_assoc]
  unfold Message.unmarshal
  rw [readArrayHeader_iff.2 (header_94 _)]
  simp [Res.bind, Res.map, readString_appendString _ _ htag, readInt64_appendInt64 _ hts,
    readIntf_encode p rec rb hrec hrb, readOptionsOrNil_marshal p opts hopts]

theorem C01_MessageExt (p : Path) (recv : MessageExt) (tag : Bytes) (ts : Instant) (rec : GoVal)
    (opts : Option Options) (e x : Bytes) (htag : lenOK tag) (hts : ts.InDomain) (hrec : rec.WF)
    (hopts : optPtrWF opts) (he : MessageExt.marshal tag ts rec opts = some e) :
    MessageExt.unmarshal p recv (e ++ x) = .ok { tag := tag, ts := ts.norm, record := rec.toObj, options := opts } x := by
  simp only [MessageExt.marshal, Option.map_eq_some_iff] at he
  obtain ⟨rb, hrb, rfl⟩ := he
  simp only [List.cons_append, List.nil_append, List.append_assoc]
  unfold MessageExt.unmarshal
  rw [readArrayHeader_iff.2 (header_94 _)]
  simp [Res.bind, Res.map, readString_appendString _ _ htag, readEventTime_append ts ts.norm _ (decodeET_encodeET ts hts),
    readIntf_encode p rec rb hrec hrb, readOptionsOrNil_marshal p opts hopts]

theorem C01_Entry (p : Path) (recv : Entry) (ts : Int) (rec : GoVal) (e x : Bytes) (hts : inInt64 ts)
    (hrec : rec.WF) (he : Entry.marshal ts rec = some e) :
    Entry.unmarshal p recv (e ++ x) = .ok { ts := ts, record := rec.toObj } x :=
  Accepts.run (c := False) (Entry.marshal_parse hts hrec he x) nofun <| .arr <| .ite_neg (· rfl) <|
    .cons (.of fun hp => readInt64_iff.2 ⟨hp, hts⟩) <| .single (.map (.of (readIntf_complete p · rec.toObj_plain)) _)

theorem C01_EntryExt (p : Path) (recv : EntryExt) (ts : Instant) (rec : GoVal) (e x : Bytes) (hts : ts.InDomain)
    (hrec : rec.WF) (he : EntryExt.marshal ts rec = some e) :
    EntryExt.unmarshal p recv (e ++ x) = .ok { ts := ts.norm, record := rec.toObj } x := by
  have h := Accepts.run (c := False) (EntryExt.marshal_parse hrec he x) nofun
    (EntryExt.accepts p recv ⟨rfl, encodeET_length ts, rec.toObj_plain⟩)
  rwa [EntryExt.obj, olist, olist, olist, entryOfObj, decodeET_encodeET ts hts] at h

theorem marshalEntries_read (p : Path) : ∀ (es : List (Instant × GoVal)) (eb : Bytes), entriesWF es →
    marshalEntries es = some eb → ∀ x, readEntries p es.length (eb ++ x) = .ok (entriesNorm es) x
  | [], _, _, he, x => by cases he; rfl
  | (t, r) :: es, _, hw, he, x => by
    obtain ⟨a, b, ha, hb, rfl⟩ := marshalEntries_cons he
    rw [List.append_assoc, List.length_cons, readEntries, C01_EntryExt p {} _ _ _ _ hw.1 hw.2.1 ha]
    simp only [Res.bind, marshalEntries_read p es b hw.2.2 hb x, Res.map, entriesNorm, List.map_cons]

theorem C01_Forward (p : Path) (recv : Forward) (tag : Bytes) (es : List (Instant × GoVal)) (opts : Option Options)
    (e x : Bytes) (htag : lenOK tag) (hn : es.length < 4294967296) (hes : entriesWF es) (hopts : optPtrWF opts)
    (he : Forward.marshal tag es opts = some e) :
    Forward.unmarshal p recv (e ++ x) = .ok { tag := tag, entries := entriesNorm es, options := opts } x := by
  simp only [Forward.marshal, EntryList.marshal, Option.map_eq_some_iff] at he
  obtain ⟨eb', ⟨eb, heb, rfl⟩, rfl⟩ := he
  cases opts with
  | none =>
    simp only [List.cons_append, List.nil_append, List.append_assoc]
    unfold Forward.unmarshal
    rw [readArrayHeader_iff.2 (header_92 _)]
    simp [Res.bind, readString_appendString _ _ htag, EntryList.unmarshal,
      readArrayHeader_iff.2 (header_appendArrayHeader _ _ hn), marshalEntries_read p es eb hes heb]
  | some o =>
    simp only [List.cons_append, List.nil_append, List.append_assoc]
    unfold Forward.unmarshal
    rw [readArrayHeader_iff.2 (header_93 _)]
    have ho : readOptionsOrNil p (o.marshal ++ x) = .ok (some o) x := readOptionsOrNil_marshal p (some o) hopts x
    simp [Res.bind, Res.map, readString_appendString _ _ htag, EntryList.unmarshal,
      readArrayHeader_iff.2 (header_appendArrayHeader _ _ hn), marshalEntries_read p es eb hes heb, ho]

theorem C01_Packed (p : Path) (recv : Packed) (tag stream : Bytes) (opts : Option Options) (x : Bytes)
    (htag : lenOK tag) (hs : lenOK stream) (hopts : optPtrWF opts) :
    Packed.unmarshal p recv (Packed.marshal tag stream opts ++ x) = .ok { tag := tag, stream := stream, options := opts } x := by
  simp only [Packed.marshal, List.cons_append, List.nil_append, List.append_assoc]
  unfold Packed.unmarshal
  rw [readArrayHeader_iff.2 (header_93 _)]
  simp [Res.bind, Res.map, readString_appendString _ _ htag, readBytes_appendBytes _ _ hs,
    readOptionsOrNil_marshal p opts hopts]

theorem C01_Options (p : Path) (o : Options) (hw : o.WF) (x : Bytes) :
    Options.unmarshal p {} (o.marshal ++ x) = .ok o x := Options.roundtrip p o hw x

theorem C01_Ack (p : Path) (recv a : Ack) (h : lenOK a.ack) (x : Bytes) :
    Ack.unmarshal p recv (a.marshal ++ x) = .ok a x := by
  simp only [Ack.marshal, List.cons_append, List.nil_append, List.append_assoc]
  unfold Ack.unmarshal
  rw [readMapHeader_iff.2 (header_81 _)]
  simp [Res.bind, Res.map, readFields, readMapKey_appendString p kAck _ (by decide) (by decide), Ack.handlers,
    readString_appendString _ _ h]

/-- the encoder writes all three fields, so nothing of the receiver survives -/
theorem HeloOpts.roundtrip (p : Path) (recv o : HeloOpts) (h : o.WF) (x : Bytes) :
    HeloOpts.unmarshal p recv (o.marshal ++ x) = .ok o x := by
  have n1 : ¬ kAuth = kNonce := by decide
  have n2 : ¬ kKeepalive = kNonce := by decide
  have n3 : ¬ kKeepalive = kAuth := by decide
  simp only [HeloOpts.marshal, List.cons_append, List.nil_append, List.append_assoc]
  unfold HeloOpts.unmarshal
  rw [readMapHeader_iff.2 (header_83 _)]
  simp [Res.bind, Res.map, readFields, readMapKey_appendString p kNonce _ (by decide) (by decide),
    readMapKey_appendString p kAuth _ (by decide) (by decide), readMapKey_appendString p kKeepalive _ (by decide) (by decide),
    HeloOpts.handlers, readBytes_appendBytes _ _ h.nonce, readBytes_appendBytes _ _ h.auth,
    readBool_appendBool, n1, n2, n3]

theorem C01_HeloOpts (p : Path) (o : HeloOpts) (h : o.WF) (x : Bytes) :
    HeloOpts.unmarshal p {} (o.marshal ++ x) = .ok o x := HeloOpts.roundtrip p {} o h x

theorem Helo.roundtrip (p : Path) (recv hl : Helo) (h1 : lenOK hl.mtype) (h2 : heloOptsPtrWF hl.options) (x : Bytes) :
    Helo.unmarshal p recv (hl.marshal ++ x) = .ok hl x := by
  obtain ⟨mt, opts⟩ := hl
  simp only [Helo.marshal, List.cons_append, List.nil_append, List.append_assoc]
  unfold Helo.unmarshal
  rw [readArrayHeader_iff.2 (header_92 _)]
  cases opts with
  | none => simp [Res.bind, Res.map, readString_appendString _ _ h1, appendNil, isNil, readNil]
  | some o =>
    simp [Res.bind, Res.map, readString_appendString _ _ h1, isNil_false_of_parse (HeloOpts.marshal_parse o h2 x) nofun,
      HeloOpts.roundtrip p _ o h2]

/-- decoding into a fresh receiver (the handshake code always uses one) -/
theorem C01_Helo (p : Path) (hl : Helo) (h1 : lenOK hl.mtype) (h2 : heloOptsPtrWF hl.options) (x : Bytes) :
    Helo.unmarshal p {} (hl.marshal ++ x) = .ok hl x := Helo.roundtrip p {} hl h1 h2 x

/-- records: **every** legal msgpack encoding (any integer width, signed or unsigned; any string,
array and map header class; any nesting) of a plain object decodes, on either path, to exactly the
object the specification parser finds -/
theorem C01_alt_record (p : Path) (b : Bytes) (o : Obj) (r : Bytes) (h : parse b = some (o, r))
    (hp : Obj.Plain o) : readIntf p b = .ok o r := readIntf_complete p h hp

/-- one message together with its encoding -/
structure MsgCase where
  tag : Bytes
  ts : Int
  record : GoVal
  opts : Option Options
  enc : Bytes

def MsgCase.OK (m : MsgCase) : Prop :=
  lenOK m.tag ∧ inInt64 m.ts ∧ m.record.WF ∧ optPtrWF m.opts ∧ Message.marshal m.tag m.ts m.record m.opts = some m.enc

/-- concatenation: a sequence of encoded messages decodes, in order, to exactly those messages with
nothing left (here for Message mode; the other modes are the same induction over their round trip) -/
theorem C01_concat_Message (p : Path) (recv : Message) :
    ∀ (ms : List MsgCase), (∀ m ∈ ms, m.OK) →
      decodeMany (Message.unmarshal p recv) ms.length (ms.map (·.enc)).flatten =
        some (ms.map fun m => { tag := m.tag, ts := m.ts, record := m.record.toObj, options := m.opts }, [])
  | [], _ => by simp [decodeMany]
  | m :: ms, h => by
    obtain ⟨a, b, c, d, he⟩ := h m (by simp)
    simp only [List.length_cons, List.map_cons, List.flatten_cons, decodeMany]
    rw [C01_Message p recv _ _ _ _ _ _ a b c d he]
    simp only
    rw [C01_concat_Message p recv ms (fun m' hm => h m' (by simp [hm]))]
    simp

-- non-vacuity: a concrete well-formed message with options and a nested record
example : Message.marshal [0x74] (-5) (.map (.cons [0x6b] (.arr (.cons (.uint 200) (.cons .nil .nil))) .nil))
    (some { size := some 2, chunk := [0x61] }) =
    some [0x94, 0xa1, 0x74, 0xfb, 0x81, 0xa1, 0x6b, 0x92, 0xcc, 0xc8, 0xc0, 0x82, 0xa4, 0x73, 0x69, 0x7a, 0x65, 0x02,
      0xa5, 0x63, 0x68, 0x75, 0x6e, 0x6b, 0xa1, 0x61] := by decide

/-! ### second half: every conforming encoding decodes (message level)

The hypotheses describe the bytes only through the *specification parser*: `parse b` finds one
array whose elements have the shape the Forward protocol gives the mode — the tag a string, the
time any integer encoding of an int64 value (signed or unsigned, any width) or any extension
encoding of type 0 with eight payload bytes, the record any plain object, the entries
`[EventTime, record]` pairs, the optional last element nil or a map with non-empty string keys in
any order, `size` an integer in the int64 range or nil, `chunk` / `compressed` strings, any further keys with values
of any shape (`OptKVsOK`); on the stream path, no token in the ext32 format (`hasExt32 b = false`:
msgp's stream `Skip` fails on those, see `Msgp/Ext32.lean` and the open finding C11-ext32-skip).  Conclusion: the decoder — either path, any receiver — returns exactly
the message those objects denote and leaves exactly the rest.  The proof terms follow the decoder: `.arr` its array header,
`.ite_neg` the arity test that does not fire, one `.cons` per field. -/

theorem C01_alt_Message (p : Path) (recv : Message) (b r tag : Bytes) (i : Int) (rec : Obj) (tail : Objs)
    (h : parse b = some (.arr (.cons (.str tag) (.cons (.int i) (.cons rec tail))), r))
    (hi : inInt64 i) (hrec : Obj.Plain rec) (ht : TailOK tail) (hx : p = .stream → hasExt32 b = false) :
    Message.unmarshal p recv b = .ok { tag := tag, ts := i, record := rec, options := optOfTail tail } r :=
  Accepts.run h hx <| .arr <| .ite_neg (ht.arity 3) <| .cons (.of readString_iff.2) <|
    .cons (.of fun hp => readInt64_iff.2 ⟨hp, hi⟩) <| .cons (.of (readIntf_complete p · hrec)) <| optTail_accepts p ht 3 _

theorem C01_alt_MessageExt (p : Path) (recv : MessageExt) (b r tag d : Bytes) (rec : Obj) (tail : Objs)
    (h : parse b = some (.arr (.cons (.str tag) (.cons (.ext 0 d) (.cons rec tail))), r))
    (hd : d.length = 8) (hrec : Obj.Plain rec) (ht : TailOK tail) (hx : p = .stream → hasExt32 b = false) :
    ∃ ts, decodeET d = some ts ∧
      MessageExt.unmarshal p recv b = .ok { tag := tag, ts := ts, record := rec, options := optOfTail tail } r := by
  obtain ⟨ts, hts⟩ := decodeET_of_length hd
  exact ⟨ts, hts, Accepts.run h hx <| .arr <| .ite_neg (ht.arity 3) <| .cons (.of readString_iff.2) <|
    .cons (readEventTime_accepts hd hts) <| .cons (.of (readIntf_complete p · hrec)) <| optTail_accepts p ht 3 _⟩

theorem C01_alt_Forward (p : Path) (recv : Forward) (b r tag : Bytes) (es tail : Objs)
    (h : parse b = some (.arr (.cons (.str tag) (.cons (.arr es) tail)), r)) (hes : EntriesOK es) (ht : TailOK tail)
    (hx : p = .stream → hasExt32 b = false) :
    Forward.unmarshal p recv b = .ok { tag := tag, entries := entriesOfObjs es, options := optOfTail tail } r :=
  Accepts.run h hx <| .arr <| .ite_neg (ht.arity 2) <| .cons (.of readString_iff.2) <|
    .cons (EntryList.accepts p hes) <| optTail_accepts p ht 2 _

theorem C01_alt_Packed (p : Path) (recv : Packed) (b r tag s : Bytes) (tail : Objs)
    (h : parse b = some (.arr (.cons (.str tag) (.cons (.bin s) tail)), r)) (ht : TailOK tail)
    (hx : p = .stream → hasExt32 b = false) :
    Packed.unmarshal p recv b = .ok { tag := tag, stream := s, options := optOfTail tail } r :=
  Accepts.run h hx <| .arr <| .ite_neg (ht.arity 2) <| .cons (.of readString_iff.2) <|
    .cons (.of readBytes_iff.2) <| optTail_accepts p ht 2 _

theorem C01_alt_Options (p : Path) (recv : Options) (b r : Bytes) (kvs : Objs)
    (h : parse b = some (.map kvs, r)) (hk : OptKVsOK kvs) (hx : p = .stream → hasExt32 b = false) :
    Options.unmarshal p recv b = .ok (foldOpts kvs recv) r :=
  Options.accepts p recv hk h hx

theorem C01_alt_Ack (p : Path) (recv : Ack) (b r : Bytes) (kvs : Objs)
    (h : parse b = some (.map kvs, r)) (hk : KVsOK ackOK kvs) (hx : p = .stream → hasExt32 b = false) :
    Ack.unmarshal p recv b = .ok (foldKVs ackApply kvs recv) r :=
  Accepts.fields (Ack.field_accepts p) hk recv h hx

theorem C01_alt_Helo (p : Path) (recv : Helo) (b r mt : Bytes) (opt : Obj)
    (h : parse b = some (.arr (.cons (.str mt) (.cons opt .nil)), r))
    (ho : opt = .nil ∨ ∃ kvs, opt = .map kvs ∧ KVsOK heloOK kvs) (hx : p = .stream → hasExt32 b = false) :
    Helo.unmarshal p recv b = .ok (Helo.mk mt
      (match opt with
        | .map kvs => some (foldKVs heloApply kvs (recv.options.getD {}))
        | _ => none)) r := by
  refine Accepts.run h hx <| .arr <| .ite_neg (· rfl) <| .cons (.of readString_iff.2) <| .single ?_
  obtain rfl | ⟨kvs, rfl, hk⟩ := ho
  · exact .nil _
  · exact .notNil (.map (.fields (HeloOpts.field_accepts p) hk _) _) nofun

theorem C01_alt_Pong (p : Path) (recv : Pong) (b r mt reason host dig : Bytes) (ar : Bool)
    (h : parse b = some (.arr (.cons (.str mt) (.cons (.bool ar) (.cons (.str reason) (.cons (.str host)
      (.cons (.str dig) .nil))))), r)) :
    Pong.unmarshal p recv b = .ok (Pong.mk mt ar reason host dig) r :=
  Accepts.run (c := False) h nofun <| .arr <| .ite_neg (· rfl) <| .cons (.of readString_iff.2) <|
    .cons (.of readBool_iff.2) <| .cons (.of readString_iff.2) <| .cons (.of readString_iff.2) <|
    .single (.map (.of readString_iff.2) _)

theorem C01_alt_Ping (p : Path) (recv : Ping) (b r mt host salt dig user pw : Bytes)
    (h : parse b = some (.arr (.cons (.str mt) (.cons (.str host) (.cons (.bin salt) (.cons (.str dig)
      (.cons (.str user) (.cons (.str pw) .nil)))))), r)) :
    Ping.unmarshal p recv b = .ok (Ping.mk mt host salt dig user pw) r :=
  Accepts.run (c := False) h nofun <| .arr <| .ite_neg (· rfl) <| .cons (.of readString_iff.2) <|
    .cons (.of readString_iff.2) <| .cons (.of readBytes_iff.2) <| .cons (.of readString_iff.2) <|
    .cons (.of readString_iff.2) <| .single (.map (.of readString_iff.2) _)

/-- the encoder's bytes are one of the encodings `C01_alt_Ping` speaks of -/
theorem C01_Ping (p : Path) (recv q : Ping) (h : q.WF) (x : Bytes) :
    Ping.unmarshal p recv (q.marshal ++ x) = .ok q x :=
  C01_alt_Ping p recv _ x _ _ _ _ _ _ (Ping.marshal_parse q h x)

theorem C01_Pong (p : Path) (recv q : Pong) (h : q.WF) (x : Bytes) :
    Pong.unmarshal p recv (q.marshal ++ x) = .ok q x :=
  C01_alt_Pong p recv _ x _ _ _ _ _ (Pong.marshal_parse q h x)

/-- the hypotheses are met by an encoding the library itself never produces: str8 tag, uint32 time,
map16 options with an unknown key whose value is an array, `size` as uint8, then trailing bytes -/
def altExample : Bytes :=
  [0x94, 0xd9, 0x01, 0x74, 0xce, 0x00, 0x00, 0x00, 0x05, 0x80,
   0xde, 0x00, 0x02, 0xa1, 0x78, 0x92, 0x01, 0x02, 0xa4, 0x73, 0x69, 0x7a, 0x65, 0xcc, 0x03, 0xff]

theorem altExample_parse : parse altExample =
    some (.arr (.cons (.str [0x74]) (.cons (.int 5) (.cons (.map .nil)
      (.cons (.map (.cons (.str [0x78]) (.cons (.arr (.cons (.int 1) (.cons (.int 2) .nil)))
        (.cons (.str kSize) (.cons (.int 3) .nil))))) .nil)))), [0xff]) := by rfl

example : parse altExample =
    some (.arr (.cons (.str [0x74]) (.cons (.int 5) (.cons (.map .nil)
      (.cons (.map (.cons (.str [0x78]) (.cons (.arr (.cons (.int 1) (.cons (.int 2) .nil)))
        (.cons (.str kSize) (.cons (.int 3) .nil))))) .nil)))), [0xff]) := altExample_parse

example (p : Path) (recv : Message) :
    Message.unmarshal p recv altExample =
      .ok { tag := [0x74], ts := 5, record := .map .nil, options := some { size := some 3 } } [0xff] := by
  have := C01_alt_Message p recv altExample _ _ _ _ _ altExample_parse (by decide) (by simp [Obj.Plain, Objs.PlainKV])
    ⟨⟨[0x78], rfl, by decide, by simp [OptValOK, kSize, kChunk, kCompressed]⟩,
      ⟨kSize, rfl, by decide, by simp only [OptValOK, if_true]; exact Or.inr ⟨3, rfl, by decide⟩⟩, trivial⟩
    (fun _ => by decide +kernel)
  simpa [optOfTail, optOfObj, foldOpts, applyOpt, kSize, kChunk, kCompressed] using this

end FV
