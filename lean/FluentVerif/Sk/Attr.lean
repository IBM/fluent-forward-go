import Lean.Meta.Tactic.Simp.RegisterCommand
/-- the step equations of the codec skeleton interpreters (`Sk/Interp.lean`, `Sk/EncSteps.lean`) and what the codec ties unfold
beside them -/
register_simp_attr sk_step
