import FluentVerif.Proto.Decode
import FluentVerif.Sk.Attr
/-! # Decoder skeletons: the statement language the translator emits, and what it means

`translator/codec.go` walks the bodies of `UnmarshalMsg` and `DecodeMsg` of the thirteen types of `fluent/protocol` statement by
statement: the hand-written decoders of `Message`, `MessageExt`, `ForwardMessage`, `PackedForwardMessage`, and the msgp-generated
ones of the tuple types (`Entry`, `EntryExt`, `Ping`, `Pong`), the map types (`MessageOptions`, `AckMessage`, `HeloOpts`, `Helo`)
and `EntryList`.  It emits each as a `List Stmt` (`List LStmt` for `EntryList`) in `Gen/Codec.lean` — on every run, from /repo's
working tree.  A Go statement it does not recognise becomes `Stmt.unknown`, which evaluates to a panic, so
nothing is dropped silently.  This file gives the statements their meaning (`run`): reads are the msgp
primitives of `Msgp/Read.lean`, a failing read returns its error, a field that is assigned is assigned in the
receiver.  `Tie/Codec.lean` and `Tie/CodecMap.lean` then prove, for every receiver and every input, that running the regenerated
skeleton *is* the decoder model the property theorems are about. -/
namespace FV.Sk

/-- the msgp read primitives and nested decoders the decoders call (either path) -/
inductive Prim
  | arrayHeader   -- ReadArrayHeaderBytes / Reader.ReadArrayHeader
  | str           -- ReadStringBytes / ReadString
  | int64         -- ReadInt64Bytes / ReadInt64; also ReadIntBytes / ReadInt (`int` is 64 bits wide)
  | intf          -- ReadIntfBytes / ReadIntf
  | eventTime     -- ReadExtensionBytes(bits, &EventTime) / ReadExtension(&EventTime)
  | bin           -- ReadBytesBytes(bits, scratch) / ReadBytes(scratch)
  | nil           -- ReadNilBytes / ReadNil
  | entryList     -- (*EntryList).UnmarshalMsg / DecodeMsg
  | options       -- (*MessageOptions).UnmarshalMsg / DecodeMsg, on the object the field points to
  | bool          -- ReadBoolBytes / ReadBool
  | mapHeader     -- ReadMapHeaderBytes / ReadMapHeader
  | skip          -- msgp.Skip / Reader.Skip: one value of any shape
deriving DecidableEq, Repr

/-- destinations: the count variable `sz`, nothing (`none`: a value read and dropped) and the fields of the receiver types, by
their Go names (`OptionsNonce` = `Options.Nonce`: a field behind the Helo's options pointer; `SizeDeref` = `*z.Size`) -/
inductive Fld | sz | none | Tag | Timestamp | Record | Options | Entries | EventStream
  | MessageType | ClientHostname | SharedKeySalt | SharedKeyHexDigest | Username | Password | AuthResult | Reason | ServerHostname
  | Nonce | Auth | Keepalive | Ack | OptionsNonce | OptionsAuth | OptionsKeepalive
  | Size | SizeDeref | Chunk | Compressed
  | other (name : String)
deriving DecidableEq, Repr

inductive Cond
  | szNotIn (a b : Nat)   -- sz != a && sz != b
  | szEq (a : Nat)        -- sz == a
  | szNe (a : Nat)        -- sz != a   (msgp-generated tuple decoders: `if zb0001 != 2`)
  | nextNil               -- NextType(bits) == NilType; `t, _ := dc.NextType(); t == NilType`; msgp.IsNil(bts) / dc.IsNil()
  | nextNilOrErr          -- stream: `t, err := dc.NextType(); t == NilType || err != nil`
  | nextErr               -- `err != nil` for the error of that NextType call
  | fieldNil (f : Fld)    -- `recv.f == nil` for a pointer-typed field
deriving DecidableEq, Repr

/-- right-hand sides of plain assignments to a field -/
inductive Rhs | nil | newOptions | emptyEntryList | newInt | newHeloOpts | other (src : String)
deriving DecidableEq, Repr

inductive Stmt
  | read (dst : Fld) (p : Prim)       -- `dst, [bits,] err = <prim>; if err != nil { return …err… }`
  | set (field : Fld) (v : Rhs)       -- `recv.field = nil | &MessageOptions{} | EntryList{} | new(int) | new(HeloOpts)`
  | ite (c : Cond) (thn : List Stmt)  -- `if c { thn }`
  | iteElse (c : Cond) (thn els : List Stmt)  -- `if c { thn } else { els }`
  | mapLoop (cases : List Stmt)       -- `for sz > 0 { sz--; field = <map key>; switch field { case …: …; default: … } }`; `.case`s, then `.dflt`
  | case (key : List Nat) (body : List Stmt)  -- one `case "<key>":` of that switch
  | dflt (body : List Stmt)           -- its `default:`
  | retErr                            -- `return …, <an error value>`
  | retRead (p : Prim)                -- `return <prim>` (its rest and its error are the function's)
  | retOk                             -- `return bits, err` / `return nil` / `o = bts; return` with `err` known to be nil
  | unknown (src : String)            -- anything the translator does not recognise

/-- values that travel between a primitive and a field -/
inductive V
  | nat (n : Nat) | str (b : Bytes) | i64 (i : Int) | obj (o : Obj) | et (t : Instant) | unit
  | entries (l : List EntryExt) | opts (o : Option Options) | bool (b : Bool)
  | nilPtr                      -- the `nil` of a plain assignment
  | optInt (o : Option Int)     -- `*int`
  | hopts (o : Option HeloOpts) -- `*HeloOpts`

/-- the fields of a receiver type, by their Go names -/
structure Fields (σ : Type) where
  put : Fld → V → σ → Option σ
  get : Fld → σ → Option V

/-- the value a `set` statement assigns -/
def setVal : Rhs → Option V
  | .nil => some .nilPtr
  | .newOptions => some (.opts (some {}))
  | .emptyEntryList => some (.entries [])
  | .newInt => some (.optInt (some 0))
  | .newHeloOpts => some (.hopts (some {}))
  | .other _ => none

/-- is this pointer-typed field value nil? -/
def isNilV : V → Option Bool
  | .opts o => some o.isNone
  | .optInt o => some o.isNone
  | .hopts o => some o.isNone
  | _ => none

/-- `none`: the condition is not one about this kind of value (evaluates to a panic) -/
def evalCond (p : Path) (sz : Nat) (b : Bytes) (fieldVal : Fld → Option V) : Cond → Option Bool
  | .szNotIn x y => some (sz != x && sz != y)
  | .szEq x => some (sz == x)
  | .szNe x => some (sz != x)
  | .nextNil => some (isNil b)
  | .nextNilOrErr => some (isNil b || (p == .stream && b.isEmpty))
  | .nextErr => some (p == .stream && b.isEmpty)
  | .fieldNil f => (fieldVal f).bind isNilV

/-- one primitive on the rest of the input; `cur` is the current value of the destination field (the receiver
of a nested decoder call) -/
def runPrim (p : Path) (cur : Option V) (b : Bytes) : Prim → Res V
  | .arrayHeader => (readArrayHeader b).map .nat
  | .mapHeader => (readMapHeader b).map .nat
  | .str => (readString b).map .str
  | .int64 => (readInt64 b).map .i64
  | .intf => (readIntf p b).map .obj
  | .eventTime => (readEventTime b).map .et
  | .bin => (readBytes b).map .str
  | .nil => (readNil b).map fun _ => .unit
  | .bool => (readBool b).map .bool
  | .skip => (skipP p b).map fun _ => .unit
  | .entryList => (EntryList.unmarshal p b).map .entries
  | .options =>
    match cur with
    | some (.opts (some o)) => (Options.unmarshal p o b).map fun o' => .opts (some o')
    | _ => .panic "nil pointer dereference: Options"

/-- the key loop of a msgp-generated map decoder: `n` times, read a key (`ReadMapKeyZC` / `ReadMapKeyPtr`) and run the
`switch` on it; `step key k` runs the selected case and continues with `k` -/
def loopN {σ} (p : Path) (step : Bytes → (σ → Bytes → Res σ) → σ → Bytes → Res σ) :
    Nat → (σ → Bytes → Res σ) → σ → Bytes → Res σ
  | 0, k, s, b => k s b
  | n+1, k, s, b => (readMapKey p b).bind fun key b1 => step key (fun s' b' => loopN p step n k s' b') s b1

mutual
/-- continuation-passing evaluation: `k` is what follows the statement -/
def exec {σ} (F : Fields σ) (p : Path) : Stmt → (Nat → σ → Bytes → Res σ) → Nat → σ → Bytes → Res σ
  | .read dst pr, k, sz, s, b =>
    (runPrim p (F.get dst s) b pr).bind fun v b' =>
      match dst, v with
      | .sz, .nat n => k n s b'
      | .sz, _ => .panic "sz is not a count"
      | .none, _ => k sz s b'
      | dst, v =>
        match F.put dst v s with
        | some s' => k sz s' b'
        | none => .panic "no such field, or a value of another type"
  | .set f v, k, sz, s, b =>
    match (setVal v).bind fun x => F.put f x s with
    | some s' => k sz s' b
    | none => .panic "assignment not understood"
  | .ite c thn, k, sz, s, b =>
    match evalCond p sz b (fun f => F.get f s) c with
    | some c => if c then execs F p thn k sz s b else k sz s b
    | none => .panic "condition on a field that is not a pointer"
  | .iteElse c thn els, k, sz, s, b =>
    match evalCond p sz b (fun f => F.get f s) c with
    | some c => if c then execs F p thn k sz s b else execs F p els k sz s b
    | none => .panic "condition on a field that is not a pointer"
  | .mapLoop cases, k, sz, s, b =>
    -- the loop runs `sz` down to zero; the statements after it see the count variable at 0
    loopN p (fun key k' s' b' => execCases F p cases key (fun _ s'' b'' => k' s'' b'') 0 s' b') sz (fun s' b' => k 0 s' b') s b
  | .case _ _, _, _, _, _ => .panic "a case outside a switch"
  | .dflt _, _, _, _, _ => .panic "a default outside a switch"
  | .retErr, _, _, _, _ => .err
  | .retRead pr, _, _, s, b => (runPrim p none b pr).map fun _ => s
  | .retOk, _, _, s, b => .ok s b
  | .unknown src, _, _, _, _ => .panic ("statement not understood by the translator: " ++ src)
def execs {σ} (F : Fields σ) (p : Path) : List Stmt → (Nat → σ → Bytes → Res σ) → Nat → σ → Bytes → Res σ
  | [], k, sz, s, b => k sz s b
  | st :: rest, k, sz, s, b => exec F p st (execs F p rest k) sz s b
/-- `switch msgp.UnsafeString(field)`: the first case whose label equals the key, else `default` -/
def execCases {σ} (F : Fields σ) (p : Path) : List Stmt → Bytes → (Nat → σ → Bytes → Res σ) → Nat → σ → Bytes → Res σ
  | [], _, k, sz, s, b => k sz s b            -- no case matches and there is no default: the switch does nothing
  | .case key body :: rest, fld, k, sz, s, b =>
    if fld = key.map UInt8.ofNat then execs F p body k sz s b else execCases F p rest fld k sz s b
  | .dflt body :: _, _, k, sz, s, b => execs F p body k sz s b
  | _ :: _, _, _, _, _, _ => .panic "a switch with something other than cases"
end

/-- a decoder body, run on a receiver and an input (falling off the end is not a Go function) -/
def run {σ} (F : Fields σ) (p : Path) (body : List Stmt) (recv : σ) (b : Bytes) : Res σ :=
  execs F p body (fun _ _ _ => .panic "missing return") 0 recv b

/-! ### the four hand-written types -/

def MessageF : Fields Message where
  put f v m := match f, v with
    | .Tag, .str t => some { m with tag := t }
    | .Timestamp, .i64 i => some { m with ts := i }
    | .Record, .obj o => some { m with record := o }
    | .Options, .opts o => some { m with options := o }
    | .Options, .nilPtr => some { m with options := none }
    | _, _ => none
  get f m := match f with
    | .Options => some (.opts m.options)
    | _ => none

def MessageExtF : Fields MessageExt where
  put f v m := match f, v with
    | .Tag, .str t => some { m with tag := t }
    | .Timestamp, .et i => some { m with ts := i }
    | .Record, .obj o => some { m with record := o }
    | .Options, .opts o => some { m with options := o }
    | .Options, .nilPtr => some { m with options := none }
    | _, _ => none
  get f m := match f with
    | .Options => some (.opts m.options)
    | _ => none

def ForwardF : Fields Forward where
  put f v m := match f, v with
    | .Tag, .str t => some { m with tag := t }
    | .Entries, .entries l => some { m with entries := l }
    | .Options, .opts o => some { m with options := o }
    | .Options, .nilPtr => some { m with options := none }
    | _, _ => none
  get f m := match f with
    | .Options => some (.opts m.options)
    | _ => none

def PackedF : Fields Packed where
  put f v m := match f, v with
    | .Tag, .str t => some { m with tag := t }
    | .EventStream, .str t => some { m with stream := t }
    | .Options, .opts o => some { m with options := o }
    | .Options, .nilPtr => some { m with options := none }
    | _, _ => none
  get f m := match f with
    | .Options => some (.opts m.options)
    | _ => none

/-! ### the msgp-generated tuple types -/

def EntryF : Fields Entry where
  put f v m := match f, v with
    | .Timestamp, .i64 i => some { m with ts := i }
    | .Record, .obj o => some { m with record := o }
    | _, _ => none
  get _ _ := none

def EntryExtF : Fields EntryExt where
  put f v m := match f, v with
    | .Timestamp, .et i => some { m with ts := i }
    | .Record, .obj o => some { m with record := o }
    | _, _ => none
  get _ _ := none

def PingF : Fields Ping where
  put f v m := match f, v with
    | .MessageType, .str s => some { m with mtype := s }
    | .ClientHostname, .str s => some { m with hostname := s }
    | .SharedKeySalt, .str s => some { m with salt := s }
    | .SharedKeyHexDigest, .str s => some { m with digest := s }
    | .Username, .str s => some { m with username := s }
    | .Password, .str s => some { m with password := s }
    | _, _ => none
  get _ _ := none

def PongF : Fields Pong where
  put f v m := match f, v with
    | .MessageType, .str s => some { m with mtype := s }
    | .AuthResult, .bool b => some { m with authResult := b }
    | .Reason, .str s => some { m with reason := s }
    | .ServerHostname, .str s => some { m with hostname := s }
    | .SharedKeyHexDigest, .str s => some { m with digest := s }
    | _, _ => none
  get _ _ := none

/-! ### the msgp-generated map types -/

def OptionsF : Fields Options where
  put f v o := match f, v with
    | .Size, .nilPtr => some { o with size := none }
    | .Size, .optInt i => some { o with size := i }
    | .SizeDeref, .i64 i => o.size.map fun _ => { o with size := some i }   -- `*z.Size = …` through a nil pointer is a panic
    | .Chunk, .str s => some { o with chunk := s }
    | .Compressed, .str s => some { o with compressed := s }
    | _, _ => none
  get f o := match f with
    | .Size => some (.optInt o.size)
    | _ => none

def AckF : Fields Ack where
  put f v m := match f, v with
    | .Ack, .str s => some { m with ack := s }
    | _, _ => none
  get _ _ := none

def HeloOptsF : Fields HeloOpts where
  put f v m := match f, v with
    | .Nonce, .str s => some { m with nonce := s }
    | .Auth, .str s => some { m with auth := s }
    | .Keepalive, .bool b => some { m with keepalive := b }
    | _, _ => none
  get _ _ := none

/-- `z.Options.Nonce = …` with `z.Options == nil` is a panic -/
def HeloF : Fields Helo where
  put f v m := match f, v with
    | .MessageType, .str s => some { m with mtype := s }
    | .Options, .nilPtr => some { m with options := none }
    | .Options, .hopts o => some { m with options := o }
    | .OptionsNonce, .str s => m.options.map fun o => { m with options := some { o with nonce := s } }
    | .OptionsAuth, .str s => m.options.map fun o => { m with options := some { o with auth := s } }
    | .OptionsKeepalive, .bool b => m.options.map fun o => { m with options := some { o with keepalive := b } }
    | _, _ => none
  get f m := match f with
    | .Options => some (.hopts m.options)
    | _ => none

/-! ### EntryList: a list of entries, decoded element by element (msgp-generated) -/

inductive LStmt
  | plain (s : Stmt)
  | resize                         -- `if cap(*z) >= int(sz) { *z = (*z)[:sz] } else { *z = make(EntryList, sz) }`
  | forRange (body : List Stmt)    -- `for i := range *z { body }`, the body working on the element `(*z)[i]`

def ListF : Fields (List EntryExt) where
  put _ _ _ := none
  get _ _ := none

/-- the receiver after the resize: `sz` elements — the old ones where there were any (within the capacity the real slice may even
show older ones), zero values otherwise; the loop overwrites both fields of every element, so it does not matter which -/
def resizeTo (n : Nat) (l : List EntryExt) : List EntryExt := l.take n ++ List.replicate (n - l.length) { ts := { sec := 0, nsec := 0 }, record := .nil }

/-- one pass of the loop body per element, in order; an error inside the body is the function's error -/
def mapEl (p : Path) (body : List Stmt) : List EntryExt → Bytes → Res (List EntryExt)
  | [], b => .ok [] b
  | e :: es, b =>
    (execs EntryExtF p body (fun _ e' b' => .ok e' b') 0 e b).bind fun e' b1 => (mapEl p body es b1).map (e' :: ·)

def execL (p : Path) : List LStmt → (Nat → List EntryExt → Bytes → Res (List EntryExt)) → Nat → List EntryExt → Bytes → Res (List EntryExt)
  | [], k, sz, l, b => k sz l b
  | .plain st :: rest, k, sz, l, b => exec ListF p st (execL p rest k) sz l b
  | .resize :: rest, k, sz, l, b => execL p rest k sz (resizeTo sz l) b
  | .forRange body :: rest, k, sz, l, b => (mapEl p body l b).bind fun l' b' => execL p rest k sz l' b'

def runL (p : Path) (body : List LStmt) (recv : List EntryExt) (b : Bytes) : Res (List EntryExt) :=
  execL p body (fun _ _ _ => .panic "missing return") 0 recv b

end FV.Sk

namespace FV
/-! ### the step equations of `execs` (`sk_step`)

`simp only [<body>, <fields>, <model>, sk_step]` runs a concrete body in a number of rewrites linear in its length and brings the
decoder model beside it to the same chain of `bind`s.  Three things make that so.  The set holds the two equations of `execs` and
not `execs`: a structurally recursive function named in a simp set is also unfolded where partially applied, so the continuation
`execs F p rest k` would unfold the program from its end, below binders, for a state nobody knows yet (`exec` is named: it only
occurs fully applied).  The equations are proved by `(rfl)`, not `rfl`: an equation that holds by `rfl` is applied by `simp`
without a proof step, and the kernel then has to redo the unfolding of the `brecOn` the recursion compiles to.  And `.read` has an
equation of its own (`exec_read`). -/
theorem Res.bind_map' {α β γ} (x : Res α) (f : α → β) (g : β → Bytes → Res γ) :
    (x.map f).bind g = x.bind fun a r => g (f a) r := by cases x <;> rfl
theorem Res.map_eq_bind {α β} (x : Res α) (f : α → β) : x.map f = x.bind fun a r => .ok (f a) r := (rfl)
theorem Res.bind_bind' {α β γ} (x : Res α) (f : α → Bytes → Res β) (g : β → Bytes → Res γ) :
    (x.bind f).bind g = x.bind fun a r => (f a r).bind g := by cases x <;> rfl
theorem Res.ok_bind' {α β} (a : α) (r : Bytes) (f : α → Bytes → Res β) : (Res.ok a r).bind f = f a r := rfl
theorem Res.ite_bind {α β} (c : Prop) [Decidable c] (x y : Res α) (f : α → Bytes → Res β) :
    (if c then x else y).bind f = if c then x.bind f else y.bind f := by split <;> rfl

/-- the model's optional trailing options element, as the chain of `bind`s a decoder body runs to -/
theorem readOptionsOrNil_bind {β} (p : Path) (b : Bytes) (g : Option Options → Bytes → Res β) :
    (readOptionsOrNil p b).bind g =
      if isNil b then (readNil b).bind fun _ r => g none r else (Options.unmarshal p {} b).bind fun o r => g (some o) r := by
  unfold readOptionsOrNil; split <;> exact Res.bind_map' ..

attribute [sk_step] Res.map_eq_bind Res.bind_bind' Res.ok_bind' readOptionsOrNil_bind

namespace Sk
variable {σ} (F : Fields σ) (p : Path) (rest : List Stmt) (k : Nat → σ → Bytes → Res σ) (sz : Nat) (s : σ) (b : Bytes)

/-- what `.read dst _` does with the value read.  `exec`'s own equation has this `match` below the binder of `bind`, on a variable:
`simp` would walk the whole rest of the program under it with the match stuck, trying the matcher's equations at every step.  As a
partial application of `assign` the continuation is closed to `simp` until the value is a constructor. -/
def assign (dst : Fld) (sz : Nat) (s : σ) (v : V) (b : Bytes) : Res σ :=
  match dst, v with
  | .sz, .nat n => k n s b
  | .sz, _ => .panic "sz is not a count"
  | .none, _ => k sz s b
  | dst, v =>
    match F.put dst v s with
    | some s' => k sz s' b
    | none => .panic "no such field, or a value of another type"

attribute [sk_step] run runL exec runPrim assign setVal evalCond isNilV Option.bind Bool.and_eq_true bne_iff_ne beq_iff_eq

@[sk_step] theorem execs_nil : execs F p [] k sz s b = k sz s b := (rfl)
@[sk_step] theorem execs_cons (st : Stmt) : execs F p (st :: rest) k sz s b = exec F p st (execs F p rest k) sz s b := (rfl)

/-- `↓` (here and on `exec_nextNilOrErr`): `exec` is in the set as a definition, and a definition is unfolded before the rewrite
lemmas are tried on the term; `↓` lemmas come before that -/
@[sk_step ↓] theorem exec_read (dst : Fld) (pr : Prim) :
    exec F p (.read dst pr) k sz s b = (runPrim p (F.get dst s) b pr).bind (assign F k dst sz s) := (rfl)

/-- the stream decoders' separate look at the error of `NextType` (`t == NilType || err != nil`, then `if err != nil { return err }`)
changes nothing where what follows fails on an empty input anyway -/
@[sk_step ↓] theorem exec_nextNilOrErr (thn : List Stmt) (h : k sz s [] = .err) :
    exec F p (.ite .nextNilOrErr (.ite .nextErr [.retErr] :: thn)) k sz s b = exec F p (.ite .nextNil thn) k sz s b := by
  cases b with
  | nil => cases p <;> simp only [exec, execs_cons, evalCond, isNil, List.isEmpty, h] <;> rfl
  | cons x r => simp only [exec, execs_cons, evalCond, List.isEmpty, Bool.and_false, Bool.or_false]; rfl

end Sk
end FV
