import FluentVerif.Proto.Decode
import FluentVerif.Proto.Encode
import FluentVerif.Proto.Equal
/-! # The small hand-written functions of `fluent/protocol/transport.go`, as the translator emits them

`EventTime.MarshalBinaryTo`, `EventTime.UnmarshalBinary`, `EntryList.UnmarshalPacked`, `EntryList.MarshalPacked`: each statement is
recognised by its exact source text (`translator/transport.go`); anything else is `.unknown`.  Each function gets its own small
evaluator over these tokens; `none` is "not a run of this function" (an unknown statement, a variable used before it is set, no
return). -/
namespace FV.Sk.Tr

inductive TStmt
  | utc | putSeconds | putNanos | retNil                       -- MarshalBinaryTo
  | ifLenWrong | getSeconds | getNanos | setUnix               -- UnmarshalBinary
  | locals | truncate | whileEntries | retBitsErr              -- UnmarshalPacked
  | poolGet | reset | deferPut | forEncode | retCopy           -- MarshalPacked
  | ifLenDiffer | makeFirst | copyFirst | makeSecond | copySecond | initMatches | initUsed | matchLoops | retMatchesEqLen   -- Equal
  | unknown (src : String)
deriving DecidableEq, Repr

/-! ### `func (et *EventTime) MarshalBinaryTo(b []byte) error`: the eight bytes written into `b` -/
structure MB where
  utc : Option Instant := none
  hi : Option Bytes := none      -- b[0:4]
  lo : Option Bytes := none      -- b[4:8]

def runMB (t : Instant) : List TStmt → MB → Option Bytes
  | .utc :: r, s => runMB t r { s with utc := some t }                 -- the same instant, expressed in UTC
  | .putSeconds :: r, s => s.utc.bind fun u => runMB t r { s with hi := some (be 4 (u.sec % 4294967296).toNat) }   -- uint32(utc.Unix())
  | .putNanos :: r, s => s.utc.bind fun u => runMB t r { s with lo := some (be 4 (u.nsec % 4294967296)) }          -- uint32(utc.Nanosecond())
  | .retNil :: _, s => s.hi.bind fun h => s.lo.map fun l => h ++ l
  | _, _ => none

/-! ### `func (et *EventTime) UnmarshalBinary(timeBytes []byte) error`: the instant stored, `some none` for the error return -/
structure UB where
  secs : Option Nat := none
  nanos : Option Nat := none
  time : Option Instant := none

def runUB (p : Bytes) : List TStmt → UB → Option (Option Instant)
  | .ifLenWrong :: r, s => if p.length ≠ 8 then some none else runUB p r s       -- eventTimeLen = 8 (pinned: `Tie.const_etlen`)
  | .getSeconds :: r, s => runUB p r { s with secs := some (beVal (p.take 4)) }
  | .getNanos :: r, s => runUB p r { s with nanos := some (beVal (p.drop 4)) }
  | .setUnix :: r, s =>
    match s.secs, s.nanos with
    | some sec, some n => runUB p r { s with time := some { sec := (sec : Int) + (n / 1000000000 : Nat), nsec := n % 1000000000 } }  -- time.Unix normalises
    | _, _ => none
  | .retNil :: _, s => s.time.map some
  | _, _ => none

/-! ### `func (el *EntryList) UnmarshalPacked(bits []byte) ([]byte, error)` -/
/-- `for len(bits) > 0 { if bits, err = entry.UnmarshalMsg(bits); err != nil { break }; *el = append(*el, entry) }` — the one `entry`
variable is the receiver of every pass (the entry decoder assigns both of its fields) -/
def whileEntries : Nat → Bytes → List EntryExt → List EntryExt × Bool
  | 0, _, acc => (acc.reverse, false)
  | f+1, b, acc =>
    if b.isEmpty then (acc.reverse, true)
    else match EntryExt.unmarshal .bytes {} b with
      | .ok e r => whileEntries f r (e :: acc)
      | _ => (acc.reverse, false)

structure UP where
  list : Option (List EntryExt) := none
  ok : Bool := true

def runUP (b : Bytes) : List TStmt → UP → Option (List EntryExt × Bool)
  | .locals :: r, s => runUP b r s
  | .truncate :: r, s => runUP b r { s with list := some [] }
  | .whileEntries :: r, s =>
    match s.list with
    | some [] => let (l, ok) := whileEntries (b.length + 1) b []; runUP b r { list := some l, ok := ok }
    | _ => none
  | .retBitsErr :: _, s => s.list.map fun l => (l, s.ok)
  | _, _ => none

/-! ### `func (el EntryList) MarshalPacked() ([]byte, error)`: `some none` for the error return -/
structure MP where
  buf : Option Bytes := none     -- the pooled buffer's contents, once it has been reset
  got : Bool := false

def runMP (es : List (Instant × GoVal)) : List TStmt → MP → Option (Option Bytes)
  | .poolGet :: r, s => runMP es r { s with got := true }
  | .reset :: r, s => if s.got then runMP es r { s with buf := some [] } else none
  | .deferPut :: r, s => runMP es r s
  | .forEncode :: r, s =>
    match s.buf with
    | some pre =>
      match marshalEntries es with
      | some bs => runMP es r { s with buf := some (pre ++ bs) }
      | none => some none                                              -- return nil, err
    | none => none                                                     -- written into a buffer that was not reset: whatever it held goes out too
  | .retCopy :: _, s => s.buf.map some
  | _, _ => none

/-! ### `func (el EntryList) Equal(e2 EntryList) bool` — over entries abstracted to a type with decidable equality ("same instant and
deeply equal record", as in `Proto/Equal.lean`) -/
structure EQ (α : Type) where
  first : Option (List α) := none
  second : Option (List α) := none
  cnt : Option Nat := none          -- `matches`
  used : Option (List (α × Bool)) := none     -- the second list with its `used` marks

/-- `for _, ea := range first { for i, eb := range second { if used[i] { continue }; if <equal> { used[i] = true; matches++; break } } }`:
the inner loop marks the first unused equal element (`Equal.markFirst`), the outer loop counts (`Equal.countMatches`) -/
def runEQ {α : Type} [DecidableEq α] (l1 l2 : List α) : List TStmt → EQ α → Option Bool
  | .ifLenDiffer :: r, s => if l1.length ≠ l2.length then some false else runEQ l1 l2 r s
  | .makeFirst :: r, s => runEQ l1 l2 r s
  | .copyFirst :: r, s => runEQ l1 l2 r { s with first := some l1 }
  | .makeSecond :: r, s => runEQ l1 l2 r s
  | .copySecond :: r, s => runEQ l1 l2 r { s with second := some l2 }
  | .initMatches :: r, s => runEQ l1 l2 r { s with cnt := some 0 }
  | .initUsed :: r, s => s.second.bind fun l => runEQ l1 l2 r { s with used := some (l.map (·, false)) }
  | .matchLoops :: r, s =>
    match s.first, s.used, s.cnt with
    | some f, some u, some m => runEQ l1 l2 r { s with cnt := some (m + Equal.countMatches f u) }
    | _, _, _ => none
  | .retMatchesEqLen :: _, s => s.cnt.map fun m => m == l1.length
  | _, _ => none

end FV.Sk.Tr
