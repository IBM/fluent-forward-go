import FluentVerif.Proto.Chunk
/-! # The skeleton of `GetChunk` (fluent/protocol/chunk.go) and what it means

`translator/chunk.go` re-reads the body of `GetChunk` on every run and emits it as `List GStmt` (`Gen/Chunk.lean`); a statement it
does not recognise is `.unknown`.  The walker runs on a `*msgp.Reader` over the bytes it is given: the primitives are the stream
ones of `Msgp/Read.lean`.  The pooled reader (`poolGet`, `deferPoolPut`) means nothing for one call; its sharing between calls is
the business of the heap model (C07) and of the concurrent lookups in the chunk suite. -/
namespace FV.Sk.Ch

inductive GStmt
  | poolGet                      -- chunkReader := chunkReaderPool.Get().(*ChunkReader); chunkReader.Reset(b); reader := chunkReader.R
  | deferPoolPut                 -- defer func() { chunkReaderPool.Put(chunkReader) }()
  | readArrayHeader              -- sz, err := reader.ReadArrayHeader(); if err != nil { return "", … }
  | readMapHeader                -- sz, err = reader.ReadMapHeader(); if err != nil { return "", … }
  | ifSzEq (n : Nat) (thn : List GStmt)   -- if sz == n { … }
  | skip                         -- if err = reader.Skip(); err != nil { return "", … }
  | nextType                     -- t, err := reader.NextType(); if err != nil { return "", … }
  | ifTimeType (thn : List GStmt)         -- if t == msgp.ExtensionType || t == msgp.IntType || t == msgp.UintType { … }
  | ifNextNotMap (thn : List GStmt)       -- if t, err = reader.NextType(); t != msgp.MapType || err != nil { … }
  | forKeys (body : List GStmt)  -- for i := uint32(0); i < sz; i++ { … }
  | readKey                      -- keyBits, err := reader.ReadMapKeyPtr(); if err != nil { return "", … }
  | ifKeyIsChunk (thn : List GStmt)       -- if bytes.Equal(keyBits, chunkKeyBits) { … }
  | retReadMapKey                -- v, err := reader.ReadMapKey(nil); return string(v), err
  | retErr                       -- return "", <an error>
  | unknown (src : String)

structure G where
  sz : Nat := 0
  timeType : Bool := false       -- what the last `NextType` said: one of ExtensionType / IntType / UintType
  key : Bytes := []              -- `keyBits`
  b : Bytes                      -- what the reader has not consumed yet

def nextIsMap (b : Bytes) : Bool :=
  match header b with
  | some (.map _, _) => true
  | _ => false

mutual
def gexec (chunkKey : Bytes) : GStmt → (G → Res Bytes) → G → Res Bytes
  | .poolGet, k, g => k g
  | .deferPoolPut, k, g => k g
  | .readArrayHeader, k, g => (readArrayHeader g.b).bind fun n r => k { g with sz := n, b := r }
  | .readMapHeader, k, g => (readMapHeader g.b).bind fun n r => k { g with sz := n, b := r }
  | .ifSzEq n thn, k, g => if g.sz = n then gexecs chunkKey thn k g else k g
  | .skip, k, g => (skipP .stream g.b).bind fun _ r => k { g with b := r }
  | .nextType, k, g => if g.b.isEmpty then .err else k { g with timeType := isTimestampType g.b }
  | .ifTimeType thn, k, g => if g.timeType then gexecs chunkKey thn k g else k g
  | .ifNextNotMap thn, k, g => if nextIsMap g.b then k g else gexecs chunkKey thn k g
  | .forKeys body, k, g => gloop chunkKey body g.sz k g
  | .readKey, k, g => (readMapKey .stream g.b).bind fun key r => k { g with key := key, b := r }
  | .ifKeyIsChunk thn, k, g => if g.key = chunkKey then gexecs chunkKey thn k g else k g
  | .retReadMapKey, _, g => readMapKey .bytes g.b
  | .retErr, _, _ => .err
  | .unknown w, _, _ => .panic ("statement not understood by the translator: " ++ w)
def gexecs (chunkKey : Bytes) : List GStmt → (G → Res Bytes) → G → Res Bytes
  | [], k, g => k g
  | st :: rest, k, g => gexec chunkKey st (gexecs chunkKey rest k) g
/-- `for i := 0; i < sz; i++ { body }` -/
def gloop (chunkKey : Bytes) (body : List GStmt) : Nat → (G → Res Bytes) → G → Res Bytes
  | 0, k, g => k g
  | n+1, k, g => gexecs chunkKey body (gloop chunkKey body n k) g
end

def runG (chunkKey : Bytes) (body : List GStmt) (b : Bytes) : Res Bytes :=
  gexecs chunkKey body (fun _ => .panic "missing return") { b := b }

end FV.Sk.Ch
