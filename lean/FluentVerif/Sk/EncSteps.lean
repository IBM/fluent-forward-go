import FluentVerif.Sk.Enc
/-! Step equations of the encoder interpreter for fully applied terms, by `(rfl)` (`Sk/Interp.lean` says why both), and one per
statement kind: given to `simp` by name, `eexec` is unfolded through its whole `match` at every step, which costs several times the
rewrite with the one equation that applies. -/
namespace FV.Sk
variable {σ : Type} (get : Fld → σ → Option EV) (src : σ) (k : St → ERes) (s : St)

attribute [sk_step] runEnc encPrim isNilPtr

@[sk_step] theorem eexecs_nil : eexecs get src [] k s = k s := (rfl)
@[sk_step] theorem eexecs_cons (st rest) : eexecs get src (st :: rest) k s = eexec get src st (eexecs get src rest k) s := (rfl)

@[sk_step] theorem eexec_require : eexec get src .require k s = k s := (rfl)
@[sk_step] theorem eexec_raw (bs) : eexec get src (.raw bs) k s = k { s with out := s.out ++ bs.map UInt8.ofNat } := (rfl)
@[sk_step] theorem eexec_put (p f c) : eexec get src (.put p f c) k s =
    match (get f src).bind (encPrim p) with
    | none => .panic "nil pointer dereference, or a field of another type"
    | some (some e) => k { s with out := s.out ++ e, err := if c = .noerr then s.err else false }
    | some none =>
      match c with
      | .checked => .err
      | .unchecked => k { s with err := true }
      | .noerr => .panic "a call without an error result failed" := (rfl)
@[sk_step] theorem eexec_putNil : eexec get src .putNil k s = k { s with out := s.out ++ appendNil } := (rfl)
@[sk_step] theorem eexec_hdrSz : eexec get src .hdrSz k s = k { s with out := s.out ++ appendArrayHeader s.sz } := (rfl)
@[sk_step] theorem eexec_setSz (n) : eexec get src (.setSz n) k s = k { s with sz := n } := (rfl)
@[sk_step] theorem eexec_ifNil (f thn els) : eexec get src (.ifNil f thn els) k s =
    match (get f src).bind isNilPtr with
    | some true => eexecs get src thn k s
    | some false => eexecs get src els k s
    | none => .panic "nil test on a field that is not a pointer" := (rfl)
@[sk_step] theorem eexec_ifNotNil (f thn els) : eexec get src (.ifNotNil f thn els) k s =
    match (get f src).bind isNilPtr with
    | some true => eexecs get src els k s
    | some false => eexecs get src thn k s
    | none => .panic "nil test on a field that is not a pointer" := (rfl)
@[sk_step] theorem eexec_ifSzEq (n thn) : eexec get src (.ifSzEq n thn) k s =
    if s.sz = n then eexecs get src thn k s else k s := (rfl)
@[sk_step] theorem eexec_decSz : eexec get src .decSz k s = k { s with sz := s.sz - 1 } := (rfl)
@[sk_step] theorem eexec_orMask (bit) : eexec get src (.orMask bit) k s = k { s with mask := bit :: s.mask } := (rfl)
@[sk_step] theorem eexec_rawOrSz (base) : eexec get src (.rawOrSz base) k s =
    k { s with out := s.out ++ [UInt8.ofNat (base + s.sz)] } := (rfl)
@[sk_step] theorem eexec_ifEmpty (f thn) : eexec get src (.ifEmpty f thn) k s =
    match get f src with
    | some (.str v) => if v = [] then eexecs get src thn k s else k s
    | _ => .panic "emptiness test on a field that is not a string" := (rfl)
@[sk_step] theorem eexec_ifMaskClear (bit thn) : eexec get src (.ifMaskClear bit thn) k s =
    if s.mask.contains bit then k s else eexecs get src thn k s := (rfl)
@[sk_step] theorem eexec_ret : eexec get src .ret k s = if s.err then .err else .ok s.out := (rfl)
@[sk_step] theorem eexec_unknown (w) : eexec get src (.unknown w) k s =
    .panic ("statement not understood by the translator: " ++ w) := (rfl)

end FV.Sk
