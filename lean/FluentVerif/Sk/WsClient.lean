import FluentVerif.Client.Ws
/-! # WSClient method skeletons and what they mean

`translator/wsclient.go` re-reads the bodies of `WSClient.connect`, `Connect`, `Disconnect`, `Reconnect`, `Send`, `SendRaw`
(`fluent/client/ws_client.go`) on every run and emits them as sequences of idioms recognised by their exact source text
(`Gen/WsClient.lean`; anything else `.unknown`).  `runW` interprets them over the state of the sequential websocket client model
(`Client/Ws.lean`).  The listener goroutine `connect` starts (`goListen`) has no effect of its own here: when and how it ends is
the environment's step `listenerEnds` of the model; locks and verification hooks mean nothing sequentially. -/
namespace FV.Sk.WsCl
open FV.WsC

inductive Src | buf | arg
deriving DecidableEq, Repr

inductive WStmt
  | lock                       -- c.sessionLock.Lock(); defer c.sessionLock.Unlock()
  | ifSession (thn : List WStmt)        -- if c.session != nil { … }
  | retErrNew                  -- return errors.New(…)
  | retConnect                 -- return c.connect()
  | dial                       -- conn, err := c.ConnectionFactory.New(); if err != nil { return err }
  | newConnection              -- connection, err := ws.NewConnection(conn, c.ConnectionOptions); if err != nil { return err }
  | newSession                 -- session := c.ConnectionFactory.NewSession(connection); c.session = session
  | goListen                   -- go func() { …; if err := session.Connection.Listen(); err != nil { c.setErr(err) }; … }()
  | retNil
  | closeIfOpen (assign : Bool) -- if c.session != nil && !c.session.Connection.Closed() { err|_ = c.session.Connection.Close() }
  | clearSession               -- c.session = nil
  | retNamedErr                -- return   (named result err)
  | connectElseClear           -- if err = c.connect(); err != nil { c.session = nil }
  | setErrVar                  -- c.setErr(err)
  | locals                     -- var ( err error; rawMessageData bytes.Buffer )
  | retIfSticky                -- if err = c.getErr(); err != nil { return err }
  | copySession                -- session := c.Session()
  | ifNoLiveSession (thn : List WStmt)  -- if session == nil || session.Connection.Closed() { … }
  | encode                     -- err = msgp.Encode(&rawMessageData, e); if err != nil { return err }; bytesData := rawMessageData.Bytes()
  | hook                       -- verifAt(…)
  | write (s : Src)            -- _, err = session.Connection.Write(…)
  | retErrVar                  -- return err
  | unknown (src : String)

structure In where
  dialOk : Bool := true
  newConnOk : Bool := true
  enc : Option Bytes := none
  raw : Bytes := []
  writeFails : Bool := false

structure W where
  st : St
  err : Bool := false
  sess : Option Nat := none      -- the local copy `session`
  dialed : Bool := false
  fresh : Option Nat := none     -- the connection `ws.NewConnection` returned
  buf : Option Bytes := none

/-- results: `none` = a Go panic / an impossible path -/
abbrev R := Option (St × Bool)     -- state, and whether the method returned a nil error

mutual
def wexec (i : In) (connectSem : St → St × Bool) : WStmt → (W → R) → W → R
  | .lock, k, w => k w
  | .hook, k, w => k w
  | .locals, k, w => k w
  | .goListen, k, w => k w
  | .ifSession thn, k, w => if w.st.session.isSome then wexecs i connectSem thn k w else k w
  | .retErrNew, _, w => some (w.st, false)
  | .retNil, _, w => some (w.st, true)
  | .retErrVar, _, w => some (w.st, !w.err)
  | .retNamedErr, _, w => some (w.st, !w.err)
  | .retConnect, _, w => some (connectSem w.st)
  | .dial, k, w => if i.dialOk then k { w with dialed := true } else some (w.st, false)
  | .newConnection, k, w =>
    if !w.dialed then none
    else if i.newConnOk then k { w with fresh := some w.st.conns.length, st := { w.st with conns := w.st.conns ++ [{}] } }
    else some ({ w.st with conns := w.st.conns ++ [{ usable := false }] }, false)
  | .newSession, k, w =>
    match w.fresh with
    | some id => k { w with st := { w.st with session := some id } }
    | none => none
  | .closeIfOpen _, k, w => k { w with st := closeCurrent w.st }      -- (the error of Close is not part of the model: it reports none)
  | .clearSession, k, w => k { w with st := { w.st with session := none } }
  | .connectElseClear, k, w =>
    let (s', ok) := connectSem w.st
    k { w with err := !ok, st := if ok then s' else { s' with session := none } }
  | .setErrVar, k, w => k { w with st := { w.st with sticky := w.err } }
  | .retIfSticky, k, w => if w.st.sticky then some (w.st, false) else k w
  | .copySession, k, w => k { w with sess := w.st.session }
  | .ifNoLiveSession thn, k, w =>
    match w.sess with
    | none => wexecs i connectSem thn k w
    | some id => if !isOpen w.st id then wexecs i connectSem thn k w else k w
  | .encode, k, w =>
    match i.enc with
    | some e => k { w with buf := some e }
    | none => some (w.st, false)
  | .write src, k, w =>
    match w.sess, (match src with | .buf => w.buf | .arg => some i.raw) with
    | some id, some d =>
      if i.writeFails then k { w with err := true }
      else k { w with err := false, st := modConn w.st id (fun c => { c with frames := c.frames ++ [(binaryFrame, d)] }) }
    | _, _ => none
  | .unknown _, _, _ => none
def wexecs (i : In) (connectSem : St → St × Bool) : List WStmt → (W → R) → W → R
  | [], k, w => k w
  | st :: rest, k, w => wexec i connectSem st (wexecs i connectSem rest k) w
end

def runW (i : In) (connectSem : St → St × Bool) (body : List WStmt) (s : St) : R :=
  wexecs i connectSem body (fun _ => none) { st := s }

end FV.Sk.WsCl
