import FluentVerif.Proto.Packed
/-! # The packed / compressed constructors and `GzipCompressor`, as the translator emits them

Statements of `NewPackedForwardMessage`, `NewPackedForwardMessageFromBytes`, `NewCompressedPackedForwardMessage`,
`NewCompressedPackedForwardMessageFromBytes`, `GzipCompressor.Write / Reset / Bytes` recognised by their exact source text
(`translator/ctors.go`; anything else `.unknown`).  The evaluators return `none` for "not a run", `some none` for the error return. -/
namespace FV.Sk.Ct

inductive KStmt
  | asEntryList | marshalPacked | checkErrNil | lenEntries | fromBytes | setSizeOption | retMsgNil   -- NewPackedForwardMessage
  | retPlain                                                                                         -- NewPackedForwardMessageFromBytes
  | compressedFromBytes | ifOkSetSize | retMsgErr                                                    -- NewCompressedPackedForwardMessage
  | poolGet | reset | deferPut | writeOrErr | fromCopyOfBuffer | setGzipOption                       -- NewCompressed…FromBytes
  | gzWrite | gzClose | retErr | ifFirstUseInit | bufReset | gzReset | retBuffer                     -- GzipCompressor
  | buildMessageNowUnix | buildMessageExtNow | retMsg | retNowUTC | buildForward | retPfm            -- NewMessage, NewMessageExt, EventTimeNow, NewForwardMessage
  | ifEmptyWriteNil | writeRaw | retGetChunk                                                         -- RawMessage
  | unknown (src : String)
deriving DecidableEq, Repr

/-- `NewPackedForwardMessageFromBytes(tag, b)` -/
def runFromBytes (tag b : Bytes) : List KStmt → Option Packed
  | [.retPlain] => some { tag := tag, stream := b, options := none }
  | _ => none

structure NP where
  bits : Option (Option Bytes) := none   -- what MarshalPacked returned (`some none`: its error)
  len : Option Nat := none
  msg : Option Packed := none

/-- `NewPackedForwardMessage(tag, entries)`; `fromBytes` is `NewPackedForwardMessageFromBytes` as evaluated above -/
def runNewPacked (fromBytes : Bytes → Bytes → Option Packed) (tag : Bytes) (es : List (Instant × GoVal)) : List KStmt → NP → Option (Option Packed)
  | .asEntryList :: r, s => runNewPacked fromBytes tag es r s
  | .marshalPacked :: r, s => runNewPacked fromBytes tag es r { s with bits := some (marshalPacked es) }
  | .checkErrNil :: r, s =>
    match s.bits with
    | some none => some none
    | some (some _) => runNewPacked fromBytes tag es r s
    | none => none
  | .lenEntries :: r, s => runNewPacked fromBytes tag es r { s with len := some es.length }
  | .fromBytes :: r, s =>
    match s.bits with
    | some (some b) => (fromBytes tag b).bind fun m => runNewPacked fromBytes tag es r { s with msg := some m }
    | _ => none
  | .setSizeOption :: r, s =>
    match s.msg, s.len with
    | some m, some n => runNewPacked fromBytes tag es r { s with msg := some { m with options := some { size := some n } } }
    | _, _ => none
  | .retMsgNil :: _, s => s.msg.map some
  | _, _ => none

structure CB where
  comp : Option Compressor := none       -- `mc`, once taken from the pool
  wrote : Bool := false
  msg : Option Packed := none

/-- `NewCompressedPackedForwardMessageFromBytes(tag, payload)` with a pooled compressor in any prior state; the message's stream is
a *copy* of the compressor's buffer (`fromCopyOfBuffer`), which goes back to the pool -/
def runCompressedFromBytes (cd : Codec) (pooled : Compressor) (fromBytes : Bytes → Bytes → Option Packed) (tag payload : Bytes) :
    List KStmt → CB → Option (Option Packed)
  | .poolGet :: r, s => runCompressedFromBytes cd pooled fromBytes tag payload r { s with comp := some pooled }
  | .reset :: r, s => s.comp.bind fun c => runCompressedFromBytes cd pooled fromBytes tag payload r { s with comp := some c.reset }
  | .deferPut :: r, s => runCompressedFromBytes cd pooled fromBytes tag payload r s
  | .writeOrErr :: r, s => s.comp.bind fun c =>
      match c.write cd payload with
      | some c' => runCompressedFromBytes cd pooled fromBytes tag payload r { s with comp := some c', wrote := true }
      | none => some none
  | .fromCopyOfBuffer :: r, s => s.comp.bind fun c =>
      if s.wrote then (fromBytes tag c.buffer).bind fun m => runCompressedFromBytes cd pooled fromBytes tag payload r { s with msg := some m } else none
  | .setGzipOption :: r, s => s.msg.bind fun m =>
      runCompressedFromBytes cd pooled fromBytes tag payload r { s with msg := some { m with options := some { compressed := vGzip } } }
  | .retMsgNil :: _, s => s.msg.map some
  | _, _ => none

structure NC where
  bits : Option (Option Bytes) := none
  len : Option Nat := none
  res : Option (Option Packed) := none

/-- `NewCompressedPackedForwardMessage(tag, entries)`; `cfb` is the constructor above, already evaluated -/
def runNewCompressed (cfb : Bytes → Bytes → Option (Option Packed)) (tag : Bytes) (es : List (Instant × GoVal)) : List KStmt → NC → Option (Option Packed)
  | .asEntryList :: r, s => runNewCompressed cfb tag es r s
  | .marshalPacked :: r, s => runNewCompressed cfb tag es r { s with bits := some (marshalPacked es) }
  | .checkErrNil :: r, s =>
    match s.bits with
    | some none => some none
    | some (some _) => runNewCompressed cfb tag es r s
    | none => none
  | .lenEntries :: r, s => runNewCompressed cfb tag es r { s with len := some es.length }
  | .compressedFromBytes :: r, s =>
    match s.bits with
    | some (some b) => (cfb tag b).bind fun res => runNewCompressed cfb tag es r { s with res := some res }
    | _ => none
  | .ifOkSetSize :: r, s =>
    match s.res, s.len with
    | some (some m), some n => runNewCompressed cfb tag es r { s with res := some (some { m with options := some { (m.options.getD {}) with size := some n } }) }
    | some none, _ => runNewCompressed cfb tag es r s
    | _, _ => none
  | .retMsgErr :: _, s => s.res
  | _, _ => none

/-! ### `NewMessage`, `NewMessageExt` (with `EventTimeNow`), `NewForwardMessage`: `now` is the clock reading; no options but the size -/

/-- `(tag, timestamp, record)`, options nil -/
def runNewMessage (now : Instant) (tag : Bytes) (r : GoVal) : List KStmt → Option (Bytes × Int × GoVal)
  | [.buildMessageNowUnix, .retMsg] => some (tag, now.sec, r)            -- time.Now().UTC().Unix()
  | _ => none

def runEventTimeNow (now : Instant) : List KStmt → Option Instant
  | [.retNowUTC] => some now                                              -- EventTime{Time: time.Now().UTC()}
  | _ => none

def runNewMessageExt (etNow : Option Instant) (tag : Bytes) (r : GoVal) : List KStmt → Option (Bytes × Instant × GoVal)
  | [.buildMessageExtNow, .retMsg] => etNow.map fun t => (tag, t, r)
  | _ => none

/-- `(tag, entries, options)` -/
def runNewForward (tag : Bytes) (es : List (Instant × GoVal)) : List KStmt → Option (Bytes × List (Instant × GoVal) × Option Options)
  | [.lenEntries, .buildForward, .setSizeOption, .retPfm] => some (tag, es, some { size := some es.length })
  | _ => none

/-! ### `RawMessage.EncodeMsg`: the bytes handed to the writer; `RawMessage.Chunk` is `GetChunk` of the bytes -/
def runRawEncode (rm : Bytes) : List KStmt → Option Bytes
  | [.ifEmptyWriteNil, .writeRaw, .retErr] => some (if rm.isEmpty then appendNil else rm)
  | _ => none

end FV.Sk.Ct
