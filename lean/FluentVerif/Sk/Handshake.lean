import FluentVerif.Proto.ChunkID
/-! # The handshake helpers of `fluent/protocol/handshake.go`, `makeChunkID` and the four `Chunk()` methods, as the translator emits them

Every statement is recognised by its exact source text (`translator/handshake.go`; anything else `.unknown`).  Small evaluators give
the token sequences their meaning; `none` is "not a run" (an unknown statement, a value used before it exists, no return).  `H` is the
hex SHA-512 digest of the bytes written to the hash, uninterpreted as everywhere else. -/
namespace FV.Sk.Hs

inductive HStmt
  | newHash | writeSalt | writeHostname | checkErr | writeNonce | writeKey | sum | makeHex | hexEncode | toString | retDigest   -- computeHexDigest
  | computeExpected | checkErr1 | ifMismatchErr | retNil                                                                          -- validateDigest
  | retValidatePing | retValidatePong
  | digestForPing | buildPing | ifCreds | retMsgErr | retMakePing | retMakePingAuth                                               -- makePing …
  | ifNilArgsErr | ifNilOptionsErr | digestForPong | buildPong                                                                    -- NewPong
  | newUUID | retBase64                                                                                                            -- makeChunkID
  | ifNoOptionsNew | ifChunkSetRet | makeChunkID | storeChunk | retChunkErr                                                        -- Chunk()
  | unknown (src : String)
deriving DecidableEq, Repr

/-! ### `computeHexDigest(salt, hostname, nonce, sharedKey)`: what is written to the hash, in order, then summed and hex-encoded -/
structure HD where
  written : Option Bytes := none
  summed : Bool := false
  hexed : Bool := false

def runHD (H : Bytes → Bytes) (salt hostname nonce key : Bytes) : List HStmt → HD → Option Bytes
  | .newHash :: r, s => runHD H salt hostname nonce key r { s with written := some [] }
  | .writeSalt :: r, s => s.written.bind fun w => runHD H salt hostname nonce key r { s with written := some (w ++ salt) }
  | .writeHostname :: r, s => s.written.bind fun w => runHD H salt hostname nonce key r { s with written := some (w ++ hostname) }
  | .checkErr :: r, s => runHD H salt hostname nonce key r s          -- a hash never refuses a write
  | .writeNonce :: r, s => s.written.bind fun w => runHD H salt hostname nonce key r { s with written := some (w ++ nonce) }
  | .writeKey :: r, s => s.written.bind fun w => runHD H salt hostname nonce key r { s with written := some (w ++ key) }
  | .sum :: r, s => if s.summed then none else runHD H salt hostname nonce key r { s with summed := true }
  | .makeHex :: r, s => runHD H salt hostname nonce key r s
  | .hexEncode :: r, s => if s.summed then runHD H salt hostname nonce key r { s with hexed := true } else none
  | .toString :: r, s => runHD H salt hostname nonce key r s
  | .retDigest :: _, s => if s.hexed then s.written.map H else none
  | _, _ => none

/-! ### `validateDigest(received, key, nonce, salt, hostname)`: `true` = the nil error; the digest helper is the one above (`digest`) -/
def runVD (digest : Bytes → Bytes → Bytes → Bytes → Bytes) (received key nonce salt hostname : Bytes) : List HStmt → Option Bytes → Option Bool
  | .computeExpected :: r, _ => runVD digest received key nonce salt hostname r (some (digest salt hostname nonce key))   -- computeHexDigest(salt, hostname, nonce, key)
  | .checkErr1 :: r, e => runVD digest received key nonce salt hostname r e
  | .ifMismatchErr :: r, e => e.bind fun x => if received ≠ x then some false else runVD digest received key nonce salt hostname r e
  | .retNil :: _, e => e.map fun _ => true
  | _, _ => none

/-! ### `ValidatePingDigest(p, key, nonce)` / `ValidatePongDigest(p, key, nonce, salt)`: which fields go where -/
def runVPing (validate : Bytes → Bytes → Bytes → Bytes → Bytes → Option Bool) (p : Ping) (key nonce : Bytes) : List HStmt → Option Bool
  | [.retValidatePing] => validate p.digest key nonce p.salt p.hostname
  | _ => none

def runVPong (validate : Bytes → Bytes → Bytes → Bytes → Bytes → Option Bool) (p : Pong) (key nonce salt : Bytes) : List HStmt → Option Bool
  | [.retValidatePong] => validate p.digest key nonce salt p.hostname
  | _ => none

/-! ### `makePing(hostname, sharedKey, salt, nonce, creds…)`, `NewPing`, `NewPingWithAuth` -/
def runMkPing (digest : Bytes → Bytes → Bytes → Bytes → Bytes) (hostname key salt nonce : Bytes) (creds : Option (Bytes × Bytes)) :
    List HStmt → Option Bytes → Option Ping → Option Ping
  | .digestForPing :: r, _, p => runMkPing digest hostname key salt nonce creds r (some (digest salt hostname nonce key)) p   -- computeHexDigest(salt, hostname, nonce, sharedKey)
  | .buildPing :: r, d, _ => d.bind fun dg =>
      runMkPing digest hostname key salt nonce creds r d (some { mtype := [0x50, 0x49, 0x4e, 0x47], hostname := hostname, salt := salt, digest := dg })
  | .ifCreds :: r, d, p => p.bind fun pg =>
      runMkPing digest hostname key salt nonce creds r d (some (match creds with | some (u, w) => { pg with username := u, password := w } | none => pg))
  | .retMsgErr :: _, _, p => p
  | _, _, _ => none

/-! ### `NewPong(authResult, reason, hostname, sharedKey, helo, ping)` with non-nil `helo` (whose options carry `nonce`) and `ping` -/
def runNewPong (digest : Bytes → Bytes → Bytes → Bytes → Bytes) (auth : Bool) (reason hostname key nonce : Bytes) (ping : Ping) :
    List HStmt → Option Bytes → Option Pong → Option Pong
  | .ifNilArgsErr :: r, d, p => runNewPong digest auth reason hostname key nonce ping r d p
  | .ifNilOptionsErr :: r, d, p => runNewPong digest auth reason hostname key nonce ping r d p
  | .digestForPong :: r, _, p => runNewPong digest auth reason hostname key nonce ping r (some (digest ping.salt hostname nonce key)) p  -- (ping.SharedKeySalt, hostname, helo.Options.Nonce, sharedKey)
  | .buildPong :: r, d, _ => d.bind fun dg =>
      runNewPong digest auth reason hostname key nonce ping r d
        (some { mtype := [0x50, 0x4f, 0x4e, 0x47], authResult := auth, reason := reason, hostname := hostname, digest := dg })
  | .retMsgErr :: _, _, p => p
  | _, _, _ => none

/-! ### `makeChunkID()` on a 16-byte draw, and `Chunk()` -/
def runMkChunk (draw : Bytes) : List HStmt → Option Bytes → Option Bytes
  | .newUUID :: r, _ => runMkChunk draw r (some (uuidMask draw))      -- uuid.New(): version 4, RFC 4122 variant
  | .checkErr :: r, u => runMkChunk draw r u
  | .retBase64 :: _, u => u.map b64enc
  | _, _ => none

structure CK where
  opts : Option Options
  chunk : Option Bytes := none

/-- the options after the call and the id returned; `mk` is `makeChunkID` as evaluated above -/
def runChunk (mk : Option Bytes) : List HStmt → CK → Option (Option Options × Bytes)
  | .ifNoOptionsNew :: r, s => runChunk mk r { s with opts := some (s.opts.getD {}) }
  | .ifChunkSetRet :: r, s =>
    match s.opts with
    | some o => if o.chunk ≠ [] then some (some o, o.chunk) else runChunk mk r s
    | none => none                                                    -- msg.Options.Chunk through a nil pointer
  | .makeChunkID :: r, s => mk.bind fun id => runChunk mk r { s with chunk := some id }
  | .storeChunk :: r, s =>
    match s.opts, s.chunk with
    | some o, some id => runChunk mk r { s with opts := some { o with chunk := id } }
    | _, _ => none
  | .retChunkErr :: _, s => s.chunk.map fun id => (s.opts, id)
  | _, _ => none

end FV.Sk.Hs
