import FluentVerif.Client.Tcp
/-! # Client method skeletons: the bodies of `Client.Send`, `SendRaw`, `checkAck`, `writeAll` as the translator emits them

`translator/client.go` re-reads these bodies of `fluent/client/client.go` on every run and emits them as `List CStmt`
(`Gen/Client.lean`); a statement that is not one of the idioms below is `.unknown`.  `runC` gives them their meaning over the
state and events of the sequential client model (`Client/Tcp.lean`): the peer and the network are inputs (`In`), exactly as for
the model's `step`.  Lock operations are kept in the skeleton for the reader but mean nothing here: the lock discipline is the
business of the control-flow graphs (`Gen/Sync.lean`, `Conc/`). -/
namespace FV.Sk.Cl
open FV.Tcp

inductive Src | buf | arg            -- `buf.Bytes()` / the method's byte-slice parameter
deriving DecidableEq, Repr

inductive CStmt
  | lock (l : String) (shared : Bool)         -- c.<l>.Lock() / RLock()
  | deferUnlock (l : String) (shared : Bool)  -- defer c.<l>.Unlock() / RUnlock()
  | ifNoSession (thn : List CStmt)            -- if c.session == nil { … }
  | ifNotTransport (thn : List CStmt)         -- if !c.session.TransportPhase { … }
  | ifRequireAck (thn : List CStmt)           -- if c.RequireAck { … }
  | ifTimeout (thn : List CStmt)              -- if c.Timeout != 0 { … }
  | chunk                                     -- if chunk, err = e.Chunk(); err != nil { return err }
  | ifChunkEmpty (thn : List CStmt)           -- if chunk == "" { … }
  | encode                                    -- var buf bytes.Buffer; if err = msgp.Encode(&buf, e); err != nil { return err }
  | writeAllThen (s : Src)                    -- if err = writeAll(c.session.Connection, …); err != nil || !c.RequireAck { return err }
  | retWriteAll (s : Src)                     -- return writeAll(c.session.Connection, …)
  | connWrite                                 -- n, err := conn.Write(b)
  | shortIsError                              -- if err == nil && n < len(b) { err = io.ErrShortWrite }
  | setReadDeadline                           -- if err := c.session.Connection.SetReadDeadline(time.Now().Add(c.Timeout)); err != nil { return err }
  | decodeAck                                 -- var ack protocol.AckMessage; if err := msgp.Decode(c.session.Connection, &ack); err != nil { return err }
  | ifAckMismatch (thn : List CStmt)          -- if ack.Ack != chunk { … }
  | retErrNew                                 -- return errors.New(…) / fmt.Errorf(…)
  | retErrVar                                 -- return err
  | retNil                                    -- return nil
  | retCheckAck                               -- return c.checkAck(chunk)
  -- lifecycle
  | ifSession (thn : List CStmt)              -- if c.session != nil { … }
  | dial                                      -- conn, err := c.New(); if err != nil { return err }
  | newSession                                -- c.session = &Session{Connection: conn}
  | ifNoSharedKey (thn : List CStmt)          -- if c.AuthInfo.SharedKey == nil { … }
  | setTransport                              -- c.session.TransportPhase = true
  | closeConn                                 -- err = c.session.Connection.Close()
  | clearSession                              -- c.session = nil
  | retNamedErr                               -- `return` in a function whose result is the named `err`
  | retConnect                                -- return c.connect()
  | retDisconnect                             -- return c.disconnect()
  | disconnectIgnore                          -- _ = c.disconnect()
  | retTransportPhase                         -- return c.session != nil && c.session.TransportPhase
  -- handshake
  | readHelo                                  -- var helo protocol.Helo; r := msgp.NewReader(c.session.Connection); err := helo.DecodeMsg(r); if err != nil { return err }
  | ifHeloNoOptions (thn : List CStmt)        -- if helo.Options == nil { … }
  | drawSalt                                  -- salt := make([]byte, 16); _, err = rand.Read(salt); if err != nil { return err }
  | newPing                                   -- ping, err := protocol.NewPing(c.Hostname, c.AuthInfo.SharedKey, salt, helo.Options.Nonce); if err != nil { return err }
  | encodePing                                -- err = msgp.Encode(c.session.Connection, ping); if err != nil { return err }
  | readPong                                  -- var pong protocol.Pong; err = pong.DecodeMsg(r); if err != nil { return err }
  | ifNotAuthResult (thn : List CStmt)        -- if !pong.AuthResult { … }
  | validatePong                              -- if err := protocol.ValidatePongDigest(&pong, c.AuthInfo.SharedKey, helo.Options.Nonce, salt); err != nil { return err }
  | unknown (src : String)

/-- what the environment decides for one call -/
structure In where
  chunkErr : Bool := false        -- `e.Chunk()` fails
  encoding : Option Bytes := none -- what `msgp.Encode(&buf, e)` produces (`none`: the message cannot be encoded)
  chunk : Bytes := []             -- the id `Chunk()` returned
  raw : Bytes := []               -- the byte-slice argument (SendRaw)
  fault : WFault := .none         -- what the connection does with the next `Write`
  resp : Bytes := []              -- what the peer has sent by the time the ack is read
  dialOk : Bool := true           -- the factory's `New()` succeeds
  closeErr : Bool := false        -- … and hands out a connection whose `Close` will report an error
  helo : Bytes := []              -- the bytes the peer sends first
  salt : Bytes := []              -- what `rand.Read` yields
  pong : Bytes := []              -- the bytes the peer sends after the PING

/-- the locals of a method run -/
structure L where
  st : St
  err : Bool := false             -- the Go variable `err`
  buf : Option Bytes := none      -- `buf`, once encoded
  ack : Option Ack := none        -- `ack`, once decoded
  wrote : Option (Bytes × WStatus) := none  -- `n`, as what the connection accepted, and its own verdict
  conn : Option Nat := none       -- `conn`, the connection the factory handed out
  heloV : Option Helo := none     -- `helo`, once decoded
  rest : Bytes := []              -- what the reader `r` holds beyond the HELO
  ping : Option Ping := none
  pongV : Option Pong := none

abbrev R := St × Out

/-- the methods a body calls, as functions already computed from their own regenerated bodies -/
structure Callees where
  checkAck : L → R := fun l => (l.st, .panic)
  connect : L → R := fun l => (l.st, .panic)
  disconnect : L → R := fun l => (l.st, .panic)

mutual
def cexec (H : Bytes → Bytes) (cfg : Cfg) (i : In) (callee : Callees) : CStmt → (L → R) → L → R
  | .lock _ _, k, l => k l
  | .deferUnlock _ _, k, l => k l
  | .ifNoSession thn, k, l => if l.st.session.isNone then cexecs H cfg i callee thn k l else k l
  | .ifNotTransport thn, k, l =>
    match l.st.session with
    | some (_, tp) => if !tp then cexecs H cfg i callee thn k l else k l
    | none => (l.st, .panic)                                          -- c.session.TransportPhase through a nil session
  | .ifRequireAck thn, k, l => if cfg.requireAck then cexecs H cfg i callee thn k l else k l
  | .ifTimeout thn, k, l => if cfg.timeout then cexecs H cfg i callee thn k l else k l
  | .chunk, k, l => if i.chunkErr then (l.st, .err) else k l
  | .ifChunkEmpty thn, k, l => if i.chunk = [] then cexecs H cfg i callee thn k l else k l
  | .encode, k, l =>
    match i.encoding with
    | some e => k { l with buf := some e }
    | none => (l.st, .err)
  | .writeAllThen src, k, l =>
    match l.st.session, (match src with | .buf => l.buf | .arg => some i.raw) with
    | some (id, _), some d =>
      let (acc, wst) := doWrite d i.fault
      let l' := { l with st := l.st.emit (.write id acc wst) }
      if wst ≠ .ok then (l'.st, .err) else if !cfg.requireAck then (l'.st, .ok) else k l'
    | _, _ => (l.st, .panic)
  | .retWriteAll src, _, l =>
    match l.st.session, (match src with | .buf => l.buf | .arg => some i.raw) with
    | some (id, _), some d =>
      let (acc, wst) := doWrite d i.fault
      ((l.st.emit (.write id acc wst)), if wst = .ok then .ok else .err)
    | _, _ => (l.st, .panic)
  | .connWrite, k, l => k l         -- only in the body of writeAll, whose meaning is `doWrite` (see `writeAll_shape`)
  | .shortIsError, k, l => k l
  | .setReadDeadline, k, l =>
    match l.st.session with
    | some (id, _) => k { l with st := l.st.emit (.deadline id) }
    | none => (l.st, .panic)
  | .decodeAck, k, l =>
    match Ack.unmarshal .stream {} i.resp with
    | .ok a _ => k { l with ack := some a }
    | _ => (l.st, .err)
  | .ifAckMismatch thn, k, l =>
    match l.ack with
    | some a => if a.ack ≠ i.chunk then cexecs H cfg i callee thn k l else k l
    | none => (l.st, .panic)
  | .retErrNew, _, l => (l.st, .err)
  | .retErrVar, _, l => (l.st, if l.err then .err else .ok)
  | .retNil, _, l => (l.st, .ok)
  | .retCheckAck, _, l => callee.checkAck l
  | .ifSession thn, k, l => if l.st.session.isSome then cexecs H cfg i callee thn k l else k l
  | .dial, k, l =>
    if i.dialOk then
      let id := l.st.conns.length
      k { l with conn := some id, st := { l.st with conns := l.st.conns ++ [{ closeErr := i.closeErr }], log := l.st.log ++ [.dial id] } }
    else (l.st.emit .dialFail, .err)
  | .newSession, k, l =>
    match l.conn with
    | some id => k { l with st := { l.st with session := some (id, false) } }
    | none => (l.st, .panic)
  | .ifNoSharedKey thn, k, l => if cfg.sharedKey.isNone then cexecs H cfg i callee thn k l else k l
  | .setTransport, k, l =>
    match l.st.session with
    | some (id, _) => k { l with st := { l.st with session := some (id, true) } }
    | none => (l.st, .panic)
  | .closeConn, k, l =>
    match l.st.session with
    | some (id, _) =>
      let ce := (l.st.conns[id]?).map (·.closeErr) |>.getD false
      k { l with err := ce, st := { l.st with conns := l.st.conns.modify id (fun c => { c with closed := c.closed + 1 }),
                                               log := l.st.log ++ [.close id] } }
    | none => (l.st, .panic)
  | .clearSession, k, l => k { l with st := { l.st with session := none } }
  | .retNamedErr, _, l => (l.st, if l.err then .err else .ok)
  | .retConnect, _, l => callee.connect l
  | .retDisconnect, _, l => callee.disconnect l
  | .disconnectIgnore, k, l => k { l with st := (callee.disconnect { st := l.st }).1 }
  | .retTransportPhase, _, l => (l.st, .bool (match l.st.session with | some (_, tp) => tp | none => false))
  | .readHelo, k, l =>
    match Helo.unmarshal .stream {} i.helo with
    | .ok h rest0 => k { l with heloV := some h, rest := rest0 }
    | .panic _ => (l.st, .panic)
    | .err => (l.st, .err)
  | .ifHeloNoOptions thn, k, l =>
    match l.heloV with
    | some h => if h.options.isNone then cexecs H cfg i callee thn k l else k l
    | none => (l.st, .panic)
  | .drawSalt, k, l => k l
  | .newPing, k, l =>
    match l.heloV.bind (·.options) with
    | some ho => k { l with ping := some (pingMsg H cfg i.salt ho.nonce) }
    | none => (l.st, .panic)                                          -- helo.Options.Nonce through a nil pointer
  | .encodePing, k, l =>
    match l.st.session, l.ping with
    | some (id, _), some p =>
      let (acc, wst) := doWrite p.marshal i.fault
      let l' := { l with st := l.st.emit (.write id acc wst) }
      if wst ≠ .ok then (l'.st, .err) else k l'
    | _, _ => (l.st, .panic)
  | .readPong, k, l =>
    match Pong.unmarshal .stream {} (l.rest ++ i.pong) with
    | .ok p _ => k { l with pongV := some p }
    | _ => (l.st, .err)
  | .ifNotAuthResult thn, k, l =>
    match l.pongV with
    | some p => if !p.authResult then cexecs H cfg i callee thn k l else k l
    | none => (l.st, .panic)
  | .validatePong, k, l =>
    match l.pongV, l.heloV.bind (·.options) with
    | some p, some ho => if validatePong H p (cfg.sharedKey.getD []) ho.nonce i.salt then k l else (l.st, .err)
    | _, _ => (l.st, .panic)
  | .unknown _, _, l => (l.st, .panic)
def cexecs (H : Bytes → Bytes) (cfg : Cfg) (i : In) (callee : Callees) : List CStmt → (L → R) → L → R
  | [], k, l => k l
  | st :: rest, k, l => cexec H cfg i callee st (cexecs H cfg i callee rest k) l
end

/-- a method body on a client state; falling off the end is not a Go function -/
def runC (H : Bytes → Bytes) (cfg : Cfg) (i : In) (callee : Callees) (body : List CStmt) (s : St) : R :=
  cexecs H cfg i callee body (fun l => (l.st, .panic)) { st := s }

end FV.Sk.Cl
