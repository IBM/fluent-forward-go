import FluentVerif.Ws.Threads
/-! Interleaving model of the websocket close protocol (`connection.CloseWithMsg` in
fluent/client/ws/connection.go), closers only: any number of goroutines call Close / CloseWithMsg;
the reader loop, the listener, the peer and the network are an environment that may change the bits
it owns (`error`, `listening`, "done is closed") arbitrarily at any time.  One atomic step per
helper call the Go code performs under a lock, per I/O call, per channel operation:
c0 take closeLock · c1 test-and-clear Open, release · c2 test Error · c3 set CloseSent ·
c4 WriteMessage(Close) · c5 wait for done or the timer · c6 set Closed · c7 Conn.Close. -/
namespace FV.WsCl

inductive CPc where
  | c0 | c1 | c2 | c3 | c4 | c5 (wok : Bool) | c6 | c7 | retMultiple | retDone
deriving DecidableEq, Repr

def CPc.past : CPc → Bool
  | .c2 | .c3 | .c4 | .c5 _ | .c6 | .c7 => true
  | _ => false

def CPc.preWrite : CPc → Bool
  | .c2 | .c3 | .c4 => true
  | _ => false

structure St where
  threads : List CPc
  closeLock : Option Nat := none
  opn : Bool := true
  error : Bool := false
  listening : Bool := false
  doneClosed : Bool := false
  closeSent : Bool := false
  closed : Bool := false
  frames : Nat := 0
  connCloses : Nat := 0
  winner : Option Nat := none     -- ghost
deriving Repr

def St.setPc (s : St) (t : Nat) (p : CPc) : St := { s with threads := s.threads.set t p }

/-- one step of thread `t`; `ch` resolves environment choices. `t = threads.length` is the
environment, which may set the three bits it owns arbitrarily. -/
def step (s : St) (t : Nat) (ch : Nat) : St :=
  match s.threads[t]? with
  | none =>
    -- environment: reader loop / peer / network (havoc of error, listening, doneClosed)
    { s with error := ch % 2 == 1, listening := (ch / 2) % 2 == 1,
             doneClosed := s.doneClosed || (ch / 4) % 2 == 1 }
  | some .c0 => if s.closeLock.isNone then { s.setPc t .c1 with closeLock := some t } else s
  | some .c1 =>
    if s.opn then { s.setPc t .c2 with opn := false, closeLock := none, winner := some t }
    else { s.setPc t .retMultiple with closeLock := none }
  | some .c2 => if s.error then s.setPc t .c6 else s.setPc t .c3
  | some .c3 => { s.setPc t .c4 with closeSent := true }
  | some .c4 => { s.setPc t (.c5 (ch % 2 == 0)) with frames := s.frames + 1 }
  | some (.c5 wok) =>
    if wok && s.listening then
      if ch % 2 == 0 then s.setPc t .c6                     -- timer fires: always possible
      else if s.doneClosed then s.setPc t .c6 else s        -- done not closed yet: keep waiting
    else s.setPc t .c6
  | some .c6 => { s.setPc t .c7 with closed := true }
  | some .c7 => { s.setPc t .retDone with connCloses := s.connCloses + 1 }
  | some .retMultiple => s
  | some .retDone => s

def run (s : St) : List (Nat × Nat) → St
  | [] => s
  | (t, c) :: r => run (step s t c) r

def init (n : Nat) : St := { threads := List.replicate n .c0 }

/-- `win`: whoever is past the gate (`c2` … `c7`, `retDone`) is the ghost `winner`, hence unique (`past_unique`); `fr`, `cc`: once a
counter is 1 no thread is left at a program counter that would raise it -/
structure Inv (s : St) : Prop where
  lock : ∀ (t : Nat), s.closeLock = some t ↔ s.threads[t]? = some .c1
  win  : ∀ (t : Nat) (p : CPc), s.threads[t]? = some p → (p.past = true ∨ p = .retDone) → s.winner = some t
  opn  : s.opn = true → s.winner = none
  fr   : s.frames ≤ 1 ∧ (s.frames = 1 → s.winner ≠ none ∧ ∀ (t : Nat) (p : CPc), s.threads[t]? = some p → p.preWrite = false)
  cc   : s.connCloses ≤ 1 ∧ (s.connCloses = 1 → s.winner ≠ none ∧ ∀ (t : Nat) (p : CPc), s.threads[t]? = some p → p.past = false)

theorem init_threads {n t : Nat} {p : CPc} (h : (init n).threads[t]? = some p) : p = .c0 := by
  simp only [init, List.getElem?_replicate] at h
  split at h <;> cases h; rfl

theorem inv_init (n : Nat) : Inv (init n) := by
  refine ⟨fun t => ⟨nofun, fun h => nomatch init_threads h⟩, fun t p h hp => ?_, fun _ => rfl, ⟨Nat.zero_le 1, nofun⟩, ⟨Nat.zero_le 1, nofun⟩⟩
  cases init_threads h; exact hp.elim nofun nofun

theorem past_unique {s : St} (h : Inv s) {t u : Nat} {p q : CPc}
    (ht : s.threads[t]? = some p) (hu : s.threads[u]? = some q)
    (hp : p.past = true ∨ p = .retDone) (hq : q.past = true ∨ q = .retDone) : t = u :=
  Option.some.inj ((h.win t p ht hp).symm.trans (h.win u q hu hq))

/-- thread `t` moves from `p0` to `p1` without getting past the gate by it; the lock takes the
value `cl`, the other shared fields stay -/
theorem inv_move {s : St} {t : Nat} {p0 p1 : CPc} {cl : Option Nat} (h : Inv s) (h0 : s.threads[t]? = some p0)
    (hl : ∀ u : Nat, cl = some u ↔ (s.threads.set t p1)[u]? = some .c1)
    (hm : ((p1.past = true ∨ p1 = .retDone) → (p0.past = true ∨ p0 = .retDone)) ∧
      (p0.preWrite = false → p1.preWrite = false) ∧ (p0.past = false → p1.past = false)) :
    Inv { s.setPc t p1 with closeLock := cl } := by
  refine ⟨hl, fun u q hq hpq => ?_, h.opn, ⟨h.fr.1, fun hfr => ⟨(h.fr.2 hfr).1, fun u q hq => ?_⟩⟩,
    ⟨h.cc.1, fun hcc => ⟨(h.cc.2 hcc).1, fun u q hq => ?_⟩⟩⟩ <;>
    rcases get_set hq with ⟨rfl, rfl⟩ | ⟨_, hq'⟩
  · exact h.win _ p0 h0 (hm.1 hpq)
  · exact h.win u q hq' hpq
  · exact hm.2.1 ((h.fr.2 hfr).2 _ p0 h0)
  · exact (h.fr.2 hfr).2 u q hq'
  · exact hm.2.2 ((h.cc.2 hcc).2 _ p0 h0)
  · exact (h.cc.2 hcc).2 u q hq'

/-- the step that raises a counter (`frames` at `c4`, `connCloses` at `c7`): the thread leaves
the program counters `fl` at which the counter is still due, and no other thread is at one -/
theorem inv_count {s : St} {t : Nat} {p0 p1 : CPc} {fl : CPc → Bool} {k : Nat} (h : Inv s)
    (h0 : s.threads[t]? = some p0) (hp0 : fl p0 = true) (hp1 : fl p1 = false) (hfl : ∀ q, fl q = true → q.past = true)
    (hk : k ≤ 1 ∧ (k = 1 → s.winner ≠ none ∧ ∀ (u : Nat) (q : CPc), s.threads[u]? = some q → fl q = false)) :
    k + 1 ≤ 1 ∧ (k + 1 = 1 → s.winner ≠ none ∧
      ∀ (u : Nat) (q : CPc), (s.threads.set t p1)[u]? = some q → fl q = false) := by
  have hk0 : k = 0 := by
    rcases Nat.le_one_iff_eq_zero_or_eq_one.1 hk.1 with e | e
    · exact e
    · exact absurd ((hk.2 e).2 t p0 h0) (by rw [hp0]; nofun)
  subst hk0
  refine ⟨Nat.le_refl 1, fun _ => ⟨fun e => Option.some_ne_none t ((h.win t p0 h0 (.inl (hfl _ hp0))).symm.trans e), fun u q hq => ?_⟩⟩
  rcases get_set hq with ⟨rfl, rfl⟩ | ⟨hne, hq'⟩
  · exact hp1
  · cases hq1 : fl q with
    | false => rfl
    | true => exact absurd (past_unique h hq' h0 (.inl (hfl _ hq1)) (.inl (hfl _ hp0))) hne

theorem inv_step (s : St) (t ch : Nat) (h : Inv s) : Inv (step s t ch) := by
  unfold step
  split
  · -- the step changes only fields `Inv` does not mention: the state is another term, so `h` does not fit, but
    -- each field of `Inv` sees the state through projections and is the same up to reduction.  Likewise below
    -- where a step also sets `closeSent` / `closed`, which the state `inv_move` speaks of does not.
    exact ⟨h.lock, h.win, h.opn, h.fr, h.cc⟩
  · next h0 =>
    split
    · next hfree =>
      exact inv_move h h0 (lock_acquire h.lock h0 (Option.isNone_iff_eq_none.1 hfree)) (by decide)
    · exact h
  · next h0 =>
    have hl := fun p1 => lock_release (p1 := p1) h.lock h0
    split
    · next hopen =>
      -- the gate: `Open` was set, so nobody is past it and nothing has been written or closed
      have hwn := h.opn hopen
      refine ⟨hl _ (by decide), fun u q hq hpq => ?_, nofun, ⟨h.fr.1, fun e => absurd hwn (h.fr.2 e).1⟩,
        ⟨h.cc.1, fun e => absurd hwn (h.cc.2 e).1⟩⟩
      rcases get_set hq with ⟨rfl, rfl⟩ | ⟨_, hq'⟩
      · rfl
      · exact nomatch (h.win u q hq' hpq).symm.trans hwn
    · exact inv_move h h0 (hl _ (by decide)) (by decide)
  · next h0 => split <;> exact inv_move h h0 (lock_keep h.lock h0 (by decide) (by decide)) (by decide)
  · next h0 =>
    have := inv_move (p1 := .c4) h h0 (lock_keep h.lock h0 (by decide) (by decide)) (by decide)
    exact ⟨this.lock, this.win, this.opn, this.fr, this.cc⟩
  · next h0 =>
    have hm := inv_move (p1 := .c5 (ch % 2 == 0)) h h0 (lock_keep h.lock h0 (by decide) nofun)
      (by cases ch % 2 == 0 <;> decide)
    exact ⟨hm.lock, hm.win, hm.opn, inv_count h h0 rfl rfl (fun q hq => by cases q <;> first | rfl | cases hq) h.fr, hm.cc⟩
  · next wok h0 =>
    have mv := inv_move (p1 := .c6) h h0 (lock_keep h.lock h0 nofun (by decide)) (by cases wok <;> decide)
    exact ite_ind (ite_ind mv (ite_ind mv h)) mv
  · next h0 =>
    have := inv_move (p1 := .c7) h h0 (lock_keep h.lock h0 (by decide) (by decide)) (by decide)
    exact ⟨this.lock, this.win, this.opn, this.fr, this.cc⟩
  · next h0 =>
    have hm := inv_move (p1 := .retDone) h h0 (lock_keep h.lock h0 (by decide) (by decide)) (by decide)
    exact ⟨hm.lock, hm.win, hm.opn, hm.fr, inv_count h h0 rfl rfl (fun _ => id) h.cc⟩
  · exact h
  · exact h

theorem inv_run (sched : List (Nat × Nat)) : ∀ s, Inv s → Inv (run s sched) := by
  induction sched with
  | nil => intro s h; exact h
  | cons x xs ih => intro s h; exact ih _ (inv_step s x.1 x.2 h)

/-- **C15 (closers)**: for any number of concurrent close calls, any schedule and any behaviour of
reader loop / peer / network: at most one close frame is written, the underlying connection is
closed at most once, at most one call is past the gate, and `Open` never comes back. -/
theorem C15_closers (n : Nat) (sched : List (Nat × Nat)) :
    let s := run (init n) sched
    s.frames ≤ 1 ∧ s.connCloses ≤ 1 ∧
    (∀ (t u : Nat) (p q : CPc), s.threads[t]? = some p → s.threads[u]? = some q →
        p.past = true → q.past = true → t = u) := by
  intro s
  have h := inv_run sched (init n) (inv_init n)
  exact ⟨h.fr.1, h.cc.1, fun t u p q ht hu hp hq => past_unique h ht hu (Or.inl hp) (Or.inl hq)⟩

/-! ### the Closed bit is set no later than the underlying close

What the reader relies on: when its `ReadMessage` fails because *this side* closed the underlying
connection, `hasConnState(Closed)` already holds, so the failure is recognised as a healthy close
and `Listen` returns nil. -/

structure Inv2 (s : St) : Prop where
  at7 : ∀ (t : Nat), s.threads[t]? = some .c7 → s.closed = true
  done : ∀ (t : Nat), s.threads[t]? = some .retDone → s.closed = true
  cc : 1 ≤ s.connCloses → s.closed = true

theorem inv2_init (n : Nat) : Inv2 (init n) := by
  refine ⟨fun t h => ?_, fun t h => ?_, nofun⟩ <;> cases init_threads h

/-- one thread moves to a program counter other than `c7` / `retDone`; `closed` and `connCloses` stay -/
theorem inv2_move {s s' : St} {t : Nat} {p1 : CPc} (h : Inv2 s) (hth : s'.threads = s.threads.set t p1)
    (hc : s'.closed = s.closed) (hn : s'.connCloses = s.connCloses) (h7 : p1 ≠ .c7) (hd : p1 ≠ .retDone) : Inv2 s' := by
  refine ⟨fun u hu => ?_, fun u hu => ?_, fun hcc => hc ▸ h.cc (hn ▸ hcc)⟩ <;> rw [hth] at hu <;> rw [hc] <;>
    rcases get_set hu with ⟨_, e⟩ | ⟨_, hu'⟩
  · exact absurd e.symm h7
  · exact h.at7 u hu'
  · exact absurd e.symm hd
  · exact h.done u hu'

theorem inv2_step (s : St) (t ch : Nat) (h : Inv2 s) : Inv2 (step s t ch) := by
  unfold step
  split
  · exact ⟨h.at7, h.done, h.cc⟩
  · split
    · exact inv2_move h rfl rfl rfl nofun nofun
    · exact h
  · split <;> exact inv2_move h rfl rfl rfl nofun nofun
  · split <;> exact inv2_move h rfl rfl rfl nofun nofun
  · exact inv2_move h rfl rfl rfl nofun nofun
  · exact inv2_move h rfl rfl rfl nofun nofun
  · have mv : Inv2 (s.setPc t .c6) := inv2_move h rfl rfl rfl nofun nofun
    exact ite_ind (ite_ind mv (ite_ind mv h)) mv
  · -- c6: the Closed bit is set, then the thread stands before the underlying close
    exact ⟨fun _ _ => rfl, fun _ _ => rfl, fun _ => rfl⟩
  · -- c7: the underlying close; the thread was at c7, so Closed holds already
    next h0 => exact ⟨fun _ _ => h.at7 t h0, fun _ _ => h.at7 t h0, fun _ => h.at7 t h0⟩
  · exact h
  · exact h

theorem inv2_run (s : St) (sched : List (Nat × Nat)) (h : Inv2 s) : Inv2 (run s sched) := by
  induction sched generalizing s with
  | nil => exact h
  | cons x xs ih => exact ih _ (inv2_step s x.1 x.2 h)

end FV.WsCl
