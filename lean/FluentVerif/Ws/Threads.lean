/-! Facts about a list of program counters, one per thread, and a lock that is held exactly by
the thread standing at the program counter `L`; shared by the closers' and the readers' model.
Their step functions answer with a tree of `if`s: `ite_ind` takes it apart without `split`. -/
namespace FV
variable {α : Type} {l : List α} {t u : Nat} {p0 p1 q L : α} {lock : Option Nat}

theorem ite_ind {P : α → Prop} {c : Prop} [Decidable c] {a b : α} (ha : P a) (hb : P b) : P (if c then a else b) := by
  split <;> assumption

theorem get_set (h : (l.set t p1)[u]? = some q) : (u = t ∧ q = p1) ∨ (u ≠ t ∧ l[u]? = some q) := by
  rw [List.getElem?_set] at h
  split at h
  · next e => split at h <;> cases h; exact .inl ⟨e.symm, rfl⟩
  · next e => exact .inr ⟨fun e' => e e'.symm, h⟩

theorem get_set_self (h : l[t]? = some p0) : (l.set t p1)[t]? = some p1 := by
  rw [List.getElem?_set, if_pos rfl, if_pos (List.getElem?_eq_some_iff.1 h).1]

theorem get_set_ne (h : u ≠ t) : (l.set t p1)[u]? = l[u]? := by
  rw [List.getElem?_set, if_neg (Ne.symm h)]

/-- a move that neither takes nor releases the lock -/
theorem lock_keep (h : ∀ u, lock = some u ↔ l[u]? = some L) (h0 : l[t]? = some p0) (hp0 : p0 ≠ L) (hp1 : p1 ≠ L) :
    ∀ u, lock = some u ↔ (l.set t p1)[u]? = some L := by
  intro u
  by_cases e : u = t
  · subst e
    rw [get_set_self h0, h u, h0]
    exact ⟨fun e => absurd (Option.some.inj e) hp0, fun e => absurd (Option.some.inj e) hp1⟩
  · rw [get_set_ne e]; exact h u

theorem lock_acquire (h : ∀ u, lock = some u ↔ l[u]? = some L) (h0 : l[t]? = some p0) (hfree : lock = none) :
    ∀ u : Nat, some t = some u ↔ (l.set t L)[u]? = some L := by
  intro u
  by_cases e : u = t
  · subst e; rw [get_set_self h0]; exact ⟨fun _ => rfl, fun _ => rfl⟩
  · rw [get_set_ne e, ← h u, hfree]
    exact ⟨fun e' => absurd (Option.some.inj e').symm e, nofun⟩

theorem lock_release (h : ∀ u, lock = some u ↔ l[u]? = some L) (h0 : l[t]? = some L) (hp1 : p1 ≠ L) :
    ∀ u : Nat, none = some u ↔ (l.set t p1)[u]? = some L := by
  intro u
  refine ⟨nofun, fun hu => ?_⟩
  rcases get_set hu with ⟨_, e⟩ | ⟨e, hu⟩
  · exact absurd e.symm hp1
  · exact absurd (Option.some.inj (((h u).2 hu).symm.trans ((h t).2 h0))) e

end FV
