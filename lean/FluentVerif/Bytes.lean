/-! `beVal p`: the number the byte string denotes, most significant byte first; `be k n`: the `k` bytes denoting `n` (exact for
`n < 256^k`) -/
namespace FV
abbrev Bytes := List UInt8

def beVal : Bytes → Nat
  | [] => 0
  | b :: bs => b.toNat * 256 ^ bs.length + beVal bs

def be : Nat → Nat → Bytes
  | 0, _ => []
  | k+1, n => UInt8.ofNat (n / 256 ^ k) :: be k (n % 256 ^ k)

@[simp] theorem be_length (k n : Nat) : (be k n).length = k := by
  induction k generalizing n with
  | zero => rfl
  | succ k ih => simp [be, ih]

theorem beVal_be (k n : Nat) (h : n < 256 ^ k) : beVal (be k n) = n := by
  induction k generalizing n with
  | zero => exact (Nat.lt_one_iff.1 h).symm
  | succ k ih =>
    have hp : 0 < 256 ^ k := Nat.pow_pos (by decide)
    have h1 : n / 256 ^ k < 256 := (Nat.div_lt_iff_lt_mul hp).2 (Nat.pow_succ' ▸ h)
    rw [be, beVal, be_length, ih _ (Nat.mod_lt _ hp), UInt8.toNat_ofNat_of_lt' h1]
    exact Nat.div_add_mod' n (256 ^ k)

theorem beVal_lt (b : Bytes) : beVal b < 256 ^ b.length := by
  induction b with
  | nil => exact Nat.one_pos
  | cons x xs ih =>
    have := Nat.mul_le_mul_right (256 ^ xs.length) x.toNat_lt
    rw [Nat.succ_mul] at this
    rw [beVal, List.length_cons, Nat.pow_succ]
    omega

theorem be_beVal : ∀ (b : Bytes), be b.length (beVal b) = b
  | [] => rfl
  | x :: xs => by
    have hlt := beVal_lt xs
    rw [List.length_cons, be, beVal, Nat.mul_comm, Nat.mul_add_div (Nat.pow_pos (by decide)), Nat.mul_add_mod,
      Nat.div_eq_of_lt hlt, Nat.mod_eq_of_lt hlt, be_beVal xs, Nat.add_zero, UInt8.ofNat_toNat]

theorem beVal_append (a b : Bytes) : beVal (a ++ b) = beVal a * 256 ^ b.length + beVal b := by
  induction a with
  | nil => simp [beVal]
  | cons c cs ih =>
    simp only [List.cons_append, beVal, List.length_append, ih, Nat.pow_add]
    rw [Nat.add_mul, Nat.mul_assoc, Nat.add_assoc]

end FV
