import FluentVerif.Conc.Lockset
/-! # Critical sections are uninterrupted in the execution log

`check_sound` / `critical_section_exclusive` speak about one reachable state.  C08 ("the wire carries
whole messages") and C16 ("frames are written one at a time") are statements about *sequences* of
events, so this file adds the execution log of a schedule — which goroutine executed which node, in
order — and proves, for every program that passes `check` and every schedule, that a lock stays
with its holder until the holder releases it (`has_log`): nobody else can release it (a node that
unlocks `l` demands `l`), nobody else can acquire it. -/
namespace FV.Lk

/-- the node a scheduler decision executes, if it executes one (`none`: it starts a call, the goroutine is
blocked, or the chosen successor does not exist and nothing happens) -/
def executes (P : Prog) (s : State) (t : Tid) (choice : Nat) : Option Nat :=
  match s.pc t with
  | none => none
  | some pc =>
    match P.code[pc]? with
    | none => none
    | some i =>
      match lockStep s.locks t i.op with
      | none => none
      | some _ =>
        match i.op with
        | .ret => some pc
        | _ => match i.succ[choice]? with
               | some _ => some pc
               | none => none

/-- the execution log of a schedule from state `s`: (goroutine, node) per executed node, in order -/
def log (P : Prog) (s : State) : List (Tid × Nat) → List (Tid × Nat)
  | [] => []
  | (t, c) :: r =>
    (match executes P s t c with
      | some pc => [(t, pc)]
      | none => []) ++ log P (step P s t c) r

def opAt (P : Prog) (pc : Nat) : Option Op := (P.code[pc]?).map (·.op)

theorem run_append (P : Prog) (s : State) (A B : List (Tid × Nat)) :
    run P s (A ++ B) = run P (run P s A) B := by
  induction A generalizing s with
  | nil => rfl
  | cons x xs ih => obtain ⟨t, c⟩ := x; simp only [List.cons_append, run]; exact ih _

theorem log_append (P : Prog) (s : State) (A B : List (Tid × Nat)) :
    log P s (A ++ B) = log P s A ++ log P (run P s A) B := by
  induction A generalizing s with
  | nil => rfl
  | cons x xs ih =>
    obtain ⟨t, c⟩ := x
    simp only [List.cons_append, log, run, ih, List.append_assoc]

theorem executes_pc {P : Prog} {s : State} {t : Tid} {c pc : Nat} (h : executes P s t c = some pc) :
    s.pc t = some pc := by
  unfold executes at h
  split at h
  · cases h
  next pc' hpc =>
    repeat' split at h
    all_goals cases h
    all_goals exact hpc

/-- the executing alternative of `step_cases` is the one that `executes` reports -/
theorem executes_of_step {P : Prog} {s : State} {t : Tid} {c pc : Nat} {i : Instr} {L' : LState} {np : Option Nat}
    (hpc : s.pc t = some pc) (hi : P.code[pc]? = some i) (hL : lockStep s.locks t i.op = some L')
    (hnp : i.op = .ret ∧ np = none ∨ i.op ≠ .ret ∧ ∃ n, i.succ[c]? = some n ∧ np = some n) :
    executes P s t c = some pc := by
  unfold executes
  simp only [hpc, hi, hL]
  obtain ⟨h, -⟩ | ⟨h, n, hn, -⟩ := hnp
  · simp [h]
  · split
    · rfl
    · simp [hn]

/-- one step preserves "`t` holds `l` in mode `m`" unless `t` itself executes the release: another goroutine
cannot release it (`lockStep_inv`: a checked node leaves the others what they hold) -/
theorem has_step (P : Prog) (hc : check P = true) (s : State)
    (hb : ∀ u pc, s.pc u = some pc → pc < P.code.length) (hI : Inv P s)
    {t : Tid} {l : Lock} {m : Mode} (held : Has s.locks t l m) (u : Tid) (c : Nat)
    (hno : ∀ pc, executes P s u c = some pc → u = t → opAt P pc ≠ some (release m l)) :
    Has (step P s u c).locks t l m := by
  rcases step_cases P s u c with (h0 | h0) | ⟨pc, i, L', np, hpc, hi, hL, hnp, h0⟩ <;> rw [h0]
  · exact held
  · exact held
  · have he := executes_of_step hpc hi hL hnp
    by_cases e : u = t
    · exact lockStep_has hL held fun hop => absurd (by simp [opAt, hi, hop]) (hno pc he e)
    · obtain ⟨i', ls, ls', hi', hl, hp, -⟩ := check_node hc (hb u pc hpc)
      cases hi.symm.trans hi'
      exact (lockStep_inv hI.wf (fun l m => hI.has hpc hl) hp hL).2.2 t l m (Ne.symm e) held

theorem mem_log_cons {P : Prog} {s : State} {u : Tid} {c : Nat} {xs : List (Tid × Nat)} {e : Tid × Nat} :
    e ∈ log P s ((u, c) :: xs) ↔ e.1 = u ∧ executes P s u c = some e.2 ∨ e ∈ log P (step P s u c) xs := by
  simp only [log, List.mem_append]
  cases executes P s u c <;> simp [Prod.ext_iff, eq_comm]

/-- `held_log` and `shared_log` in one: along any schedule in which `t` does not execute the release,
`t` goes on holding `l` in mode `m`, so whoever executes a node that demands `l` exclusively is `t`, holding it
exclusively -/
theorem has_log (P : Prog) (hc : check P = true) (t : Tid) (l : Lock) (m : Mode) :
    ∀ (B : List (Tid × Nat)) (s : State), (∀ u pc, s.pc u = some pc → pc < P.code.length) → Inv P s →
      Has s.locks t l m →
      (∀ e ∈ log P s B, e.1 = t → opAt P e.2 ≠ some (release m l)) →
      (∀ e ∈ log P s B, ∀ ls, P.annot[e.2]? = some ls → (l, Mode.ex) ∈ ls → e.1 = t ∧ m = .ex) ∧
        Has (run P s B).locks t l m := by
  intro B
  induction B with
  | nil => intro s _ _ held _; exact ⟨nofun, held⟩
  | cons x xs ih =>
    intro s hb hI held hno
    obtain ⟨u, c⟩ := x
    obtain ⟨hI', hb'⟩ := inv_step P hc s u c hb hI
    have held' := has_step P hc s hb hI held u c fun pc he hut =>
      hno (u, pc) (mem_log_cons.2 (.inl ⟨rfl, he⟩)) hut
    obtain ⟨ih1, ih2⟩ := ih _ hb' hI' held' fun e he => hno e (mem_log_cons.2 (.inr he))
    refine ⟨fun e he ls hl hm => ?_, ih2⟩
    rcases mem_log_cons.1 he with ⟨rfl, hx⟩ | he
    · obtain ⟨h1, h2⟩ := ex_unique hI.wf (hI.has (executes_pc hx) hl hm) held
      exact ⟨h1.symm, h2⟩
    · exact ih1 e he ls hl hm

/-- **a held lock stays held, and its sections stay one's own**: from a state where `t` holds `l`
exclusively, along any schedule in which `t` does not execute `unlock l`, every executed node whose
annotation demands `l` exclusively is executed by `t`, and `t` holds `l` at the end -/
theorem held_log (P : Prog) (hc : check P = true) (t : Tid) (l : Lock) :
    ∀ (B : List (Tid × Nat)) (s : State), (∀ u pc, s.pc u = some pc → pc < P.code.length) → Inv P s →
      s.locks.exH l = some t →
      (∀ e ∈ log P s B, e.1 = t → opAt P e.2 ≠ some (.unlock l)) →
      (∀ e ∈ log P s B, ∀ ls, P.annot[e.2]? = some ls → (l, Mode.ex) ∈ ls → e.1 = t) ∧
        (run P s B).locks.exH l = some t := fun B s hb hI held hno =>
  have ⟨h1, h2⟩ := has_log P hc t l .ex B s hb hI held hno
  ⟨fun e he ls hl hm => (h1 e he ls hl hm).1, h2⟩

/-- **while a lock is held shared, nobody executes a node that demands it exclusively** -/
theorem shared_log (P : Prog) (hc : check P = true) (t : Tid) (l : Lock) :
    ∀ (B : List (Tid × Nat)) (s : State), (∀ u pc, s.pc u = some pc → pc < P.code.length) → Inv P s →
      t ∈ s.locks.shH l →
      (∀ e ∈ log P s B, e.1 = t → opAt P e.2 ≠ some (.runlock l)) →
      (∀ e ∈ log P s B, ∀ ls, P.annot[e.2]? = some ls → (l, Mode.ex) ∈ ls → False) ∧
        t ∈ (run P s B).locks.shH l := fun B s hb hI held hno =>
  have ⟨h1, h2⟩ := has_log P hc t l .sh B s hb hI held hno
  ⟨fun e he ls hl hm => (nomatch (h1 e he ls hl hm).2), h2⟩

theorem allUnder_spec {P : Prog} {v : Var} {l l' : Lock} (h : allUnder P v l l' = true) {pc : Nat}
    {w : Bool} (ha : accessOf P pc = some (v, w)) :
    ∃ ls, P.annot[pc]? = some ls ∧ ((l, Mode.ex) ∈ ls ∨ (l', Mode.ex) ∈ ls) := by
  have := List.all_eq_true.1 h pc (List.mem_filter.2 ⟨List.mem_range.2 (accessOf_lt ha), by simp [ha]⟩)
  split at this
  · next ls hl =>
    exact ⟨ls, hl, (Bool.or_eq_true _ _ ▸ this).imp holdsEx_mem holdsEx_mem⟩
  · cases this

/-- where every alternative of `v`'s policy demands `l` or `l'` exclusively, a checked program accesses `v` only
under one of them: `allUnder` is read off the policy, not swept over the graph again -/
theorem allUnder_of_check {P : Prog} (hc : check P = true) {v : Var} {l l' : Lock}
    (hpol : (altsOf P v false ++ altsOf P v true).all (fun alt => holdsEx alt l || holdsEx alt l') = true) :
    allUnder P v l l' = true := by
  simp only [allUnder, accessNodes, List.all_eq_true, List.mem_filter]
  rintro pc ⟨-, hacc⟩
  split at hacc
  next v' w ha =>
    cases beq_iff_eq.1 hacc
    obtain ⟨ls, alt, hl, hm, ok⟩ := access_alt hc ha
    have := List.all_eq_true.1 hpol alt (List.mem_append.2 (by cases w; exact .inl hm; exact .inr hm))
    rw [hl]
    simp only [Bool.or_eq_true] at this ⊢
    exact this.imp (fun h => altOK_mem ok (holdsEx_mem h)) (fun h => altOK_mem ok (holdsEx_mem h))
  next => cases hacc

/-- **a send-like section is uninterrupted**: variable `v` is accessed only under lock `l` or lock `l'`
exclusively (`allUnder`).  From any reachable state in which `t` holds `l` exclusively and `l'` shared,
and for as long as `t` executes neither `unlock l` nor `runlock l'`, every access to `v` in the log is
`t`'s own — under every schedule, for any number of goroutines. -/
theorem section_uninterrupted (P : Prog) (hc : check P = true) (v : Var) (l l' : Lock)
    (hall : allUnder P v l l' = true) (A B : List (Tid × Nat)) (t : Tid)
    (h1 : (run P init A).locks.exH l = some t) (h0 : t ∈ (run P init A).locks.shH l')
    (hno : ∀ e ∈ log P (run P init A) B, e.1 = t →
      opAt P e.2 ≠ some (.unlock l) ∧ opAt P e.2 ≠ some (.runlock l'))
    (e : Tid × Nat) (he : e ∈ log P (run P init A) B) (w : Bool) (ha : accessOf P e.2 = some (v, w)) :
    e.1 = t := by
  obtain ⟨hI, hb⟩ := inv_reach P hc A
  obtain ⟨ls, hl, hm | hm⟩ := allUnder_spec hall ha
  · exact (held_log P hc t l B _ hb hI h1 (fun e he ht => (hno e he ht).1)).1 e he ls hl hm
  · exact ((shared_log P hc t l' B _ hb hI h0 (fun e he ht => (hno e he ht).2)).1 e he ls hl hm).elim

/-- the one-lock form: `v` is accessed only under `l` exclusively -/
theorem section_uninterrupted1 (P : Prog) (hc : check P = true) (v : Var) (l : Lock)
    (hall : allUnder P v l l = true) (A B : List (Tid × Nat)) (t : Tid)
    (h1 : (run P init A).locks.exH l = some t)
    (hno : ∀ e ∈ log P (run P init A) B, e.1 = t → opAt P e.2 ≠ some (.unlock l))
    (e : Tid × Nat) (he : e ∈ log P (run P init A) B) (w : Bool) (ha : accessOf P e.2 = some (v, w)) :
    e.1 = t := by
  obtain ⟨hI, hb⟩ := inv_reach P hc A
  obtain ⟨ls, hl, hm⟩ := allUnder_spec hall ha
  exact (held_log P hc t l B _ hb hI h1 hno).1 e he ls hl (hm.elim id id)

/-! ### non-vacuity on a two-node-section program: `lock 0; write 0; write 0; unlock 0; ret` -/

def secDemo : Prog :=
  { code := [⟨.lock 0, [1]⟩, ⟨.write 0, [2]⟩, ⟨.write 0, [3]⟩, ⟨.unlock 0, [4]⟩, ⟨.ret, []⟩],
    annot := [[], [(0, .ex)], [(0, .ex)], [(0, .ex)], []],
    policy := [{ var := 0, readAlts := [[(0, .sh)]], writeAlts := [[(0, .ex)]] }] }

theorem secDemo_ok : check secDemo = true := by decide
theorem secDemo_all : allUnder secDemo 0 0 0 = true := by decide

/-- goroutine 7 enters its section (start, lock); then 7 writes, goroutine 9 starts and tries the lock
(blocked: nothing logged), 7 writes again: the hypotheses hold and the log of the section is 7's alone -/
example : (run secDemo init [(7, 0), (7, 0)]).locks.exH 0 = some 7 ∧
    log secDemo (run secDemo init [(7, 0), (7, 0)]) [(7, 0), (9, 0), (9, 0), (7, 0)] = [(7, 1), (7, 2)] := by
  constructor <;> decide

end FV.Lk
