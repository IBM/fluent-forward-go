import FluentVerif.Conc.Lockset
/-! Hand-written access policies of the designated shared variables (lock and variable numbers as
in /verif/translator/main.go).  Locks: sessionLock 0, ackLock (the send mutex) 1, errLock 2,
closeLock 3, listenLock 4, writeLock 5, stateLock 6.  Variables: session 0, transport phase 1,
wire 2 (every use of the session's connection: writes, the ack read, deadline, close), err 3,
connState 4, wswrite 5 (the frame-writing methods of the underlying connection), wsread 6, listenGate 7,
closeGate 8. -/
namespace FV.Protect
open FV.Lk

/-- reads under ≥ shared, writes under exclusive `l` -/
def rw (v : Var) (l : Lock) : Policy :=
  { var := v, readAlts := [[(l, .sh)]], writeAlts := [[(l, .ex)]] }

/-- TCP client.  The wire is used either by a sender holding the send mutex (and the session lock
shared, so the session cannot be replaced under it) or by a lifecycle operation / the handshake
holding the session lock exclusively. -/
def clientPolicy : List Policy :=
  [rw 0 0, rw 1 0,
   { var := 2, readAlts := [[(1, .ex), (0, .sh)], [(0, .ex)]], writeAlts := [[(1, .ex), (0, .sh)], [(0, .ex)]] }]

def wsClientPolicy : List Policy := [rw 0 0, rw 3 2]

/-- websocket connection: the state bits under `stateLock`; every frame written under `writeLock`.
`ReadMessage` (6) is protected by the Listening test-and-set protocol, not by a lock: any access to
it is accepted here and its exclusivity is `FV.WsR.C16_one_reader` (`Props/C15.lean`), about the model of `Listen` and its
read loop in `Ws/Reader.lean`. -/
def wsConnPolicy : List Policy :=
  [rw 4 6, { var := 5, readAlts := [[(5, .ex)]], writeAlts := [[(5, .ex)]] },
   { var := 6, readAlts := [[]], writeAlts := [] },
   -- the admission gate of `Listen` (test of the Listening bit and its setting): under `listenLock`
   { var := 7, readAlts := [[(4, .ex)]], writeAlts := [[(4, .ex)]] },
   -- the admission gate of `CloseWithMsg` (test of `Closed()` and clearing of the Open bit): under `closeLock`
   { var := 8, readAlts := [[(3, .ex)]], writeAlts := [[(3, .ex)]] }]

theorem clientPolicy_ok : policyOK { code := [], annot := [], policy := clientPolicy } = true := by decide
theorem wsClientPolicy_ok : policyOK { code := [], annot := [], policy := wsClientPolicy } = true := by decide
theorem wsConnPolicy_ok : policyOK { code := [], annot := [], policy := wsConnPolicy } = true := by decide

end FV.Protect
