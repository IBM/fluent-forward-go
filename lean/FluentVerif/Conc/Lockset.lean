/-! Certified lockset checker for control-flow graphs under mutexes and RW mutexes.

A program is one CFG (`code`, successor lists) shared by any number of goroutines, each making any
number of calls (entry = node 0, which the translator makes a dispatch node whose successors are the
entries of the exported methods and of the goroutine bodies they spawn, as if those could start at any time).  `annot` gives, per node, locks the goroutine must hold there; it
comes from the untrusted translator and is re-validated by `check`.  Shared variables carry an
*access policy*: per access kind a list of alternatives, each a set of (lock, minimal mode); an
access is accepted when the annotation satisfies one alternative, and `policyOK` demands that every
write alternative is mutually exclusive with every read or write alternative of the same variable.
`check_sound`: if `check P = true` then under **every** schedule of **any number** of goroutines no
two distinct goroutines are ever simultaneously at conflicting accesses. -/
namespace FV.Lk

abbrev Lock := Nat
abbrev Var := Nat
abbrev Tid := Nat

inductive Mode | sh | ex
deriving DecidableEq, Repr

inductive Op
  | lock (l : Lock) | rlock (l : Lock) | unlock (l : Lock) | runlock (l : Lock)
  | read (v : Var) | write (v : Var)
  | other
  | unknown                  -- something the translator could not classify: always rejected
  | ret
deriving DecidableEq, Repr

structure Instr where
  op : Op
  succ : List Nat
deriving DecidableEq, Repr

abbrev LockSet := List (Lock × Mode)

/-- access policy of one variable: alternatives for reads, alternatives for writes -/
structure Policy where
  var : Var
  readAlts : List LockSet
  writeAlts : List LockSet
deriving DecidableEq, Repr

structure Prog where
  code  : List Instr
  annot : List LockSet
  policy : List Policy

def holds (ls : LockSet) (l : Lock) : Bool := ls.any (fun p => p.1 == l)
def holdsEx (ls : LockSet) (l : Lock) : Bool := ls.any (fun p => p.1 == l && p.2 == Mode.ex)
def holdsSh (ls : LockSet) (l : Lock) : Bool := ls.any (fun p => p.1 == l && p.2 == Mode.sh)

/-- does the lockset `ls` provide lock `l` in at least mode `m`? -/
def satisfies (ls : LockSet) (p : Lock × Mode) : Bool :=
  match p.2 with
  | .sh => holds ls p.1
  | .ex => holdsEx ls p.1

def altOK (ls : LockSet) (alt : LockSet) : Bool := alt.all (satisfies ls)

def altsOf (P : Prog) (v : Var) (isWrite : Bool) : List LockSet :=
  match P.policy.find? (·.var == v) with
  | some p => if isWrite then p.writeAlts else p.readAlts
  | none => []          -- a variable without a policy: every access is rejected

/-- two alternatives exclude each other: one of them needs exclusively a lock the other needs too -/
def excl (a b : LockSet) : Bool :=
  a.any (fun p => p.2 == Mode.ex && holds b p.1) || b.any (fun p => p.2 == Mode.ex && holds a p.1)

def policyOK (P : Prog) : Bool :=
  P.policy.all fun p => p.writeAlts.all fun a => (p.readAlts ++ p.writeAlts).all fun b => excl a b

/-- lockset after executing `op` from `ls`; `none` = rejected -/
def post (P : Prog) (ls : LockSet) : Op → Option LockSet
  | .lock l    => if holds ls l then none else some ((l, .ex) :: ls)
  | .rlock l   => if holds ls l then none else some ((l, .sh) :: ls)
  | .unlock l  => if holdsEx ls l then some (ls.filter (fun p => p.1 != l)) else none
  | .runlock l => if holdsSh ls l then some (ls.filter (fun p => p.1 != l)) else none
  | .read v    => if (altsOf P v false).any (altOK ls) then some ls else none
  | .write v   => if (altsOf P v true).any (altOK ls) then some ls else none
  | .other     => some ls
  | .unknown   => none
  | .ret       => if ls.isEmpty then some ls else none

def subset (a b : LockSet) : Bool := a.all (fun p => b.contains p)

def checkAt (P : Prog) (pc : Nat) : Bool :=
  match P.code[pc]?, P.annot[pc]? with
  | some i, some ls =>
    match post P ls i.op with
    | none => false
    | some ls' => i.succ.all (fun s =>
        match P.annot[s]? with
        | some a => s < P.code.length && subset a ls'
        | none => false)
  | _, _ => false

def check (P : Prog) : Bool :=
  policyOK P &&
  P.annot.length == P.code.length && 0 < P.code.length &&
  P.annot[0]? == some [] && (List.range P.code.length).all (checkAt P)

structure LState where
  exH : Lock → Option Tid
  shH : Lock → List Tid

structure State where
  locks : LState
  pc : Tid → Option Nat        -- none = idle (holds nothing)

def setEx (L : LState) (l : Lock) (o : Option Tid) : LState :=
  { L with exH := fun k => if k = l then o else L.exH k }
def setSh (L : LState) (l : Lock) (r : List Tid) : LState :=
  { L with shH := fun k => if k = l then r else L.shH k }

/-- effect of `op` by thread `t` on the lock state; `none` = not enabled -/
def lockStep (L : LState) (t : Tid) : Op → Option LState
  | .lock l    => if L.exH l = none ∧ L.shH l = [] then some (setEx L l (some t)) else none
  | .rlock l   => if L.exH l = none then some (setSh L l (t :: L.shH l)) else none
  | .unlock l  => some (setEx L l none)
  | .runlock l => some (setSh L l ((L.shH l).erase t))
  | _          => some L

def setPc (f : Tid → Option Nat) (t : Tid) (p : Option Nat) : Tid → Option Nat :=
  fun u => if u = t then p else f u

/-- one scheduler decision: thread `t` moves; `choice` selects the successor; an idle thread starts a call -/
def step (P : Prog) (s : State) (t : Tid) (choice : Nat) : State :=
  match s.pc t with
  | none => { s with pc := setPc s.pc t (some 0) }             -- start a call
  | some pc =>
    match P.code[pc]? with
    | none => s
    | some i =>
      match lockStep s.locks t i.op with
      | none => s                                              -- blocked
      | some L' =>
        match i.op with
        | .ret => { locks := L', pc := setPc s.pc t none }
        | _ => match i.succ[choice]? with
               | some n => { locks := L', pc := setPc s.pc t (some n) }
               | none => s

def init : State := { locks := { exH := fun _ => none, shH := fun _ => [] }, pc := fun _ => none }

def run (P : Prog) (s : State) : List (Tid × Nat) → State
  | [] => s
  | (t, c) :: r => run P (step P s t c) r

structure Inv (P : Prog) (s : State) : Prop where
  wf   : ∀ l t, s.locks.exH l = some t → s.locks.shH l = []
  hex  : ∀ t pc ls l, s.pc t = some pc → P.annot[pc]? = some ls → (l, Mode.ex) ∈ ls → s.locks.exH l = some t
  hsh  : ∀ t pc ls l, s.pc t = some pc → P.annot[pc]? = some ls → (l, Mode.sh) ∈ ls → t ∈ s.locks.shH l

theorem subset_mem {a b : LockSet} (h : subset a b = true) {p} (hp : p ∈ a) : p ∈ b := by
  simp [subset, List.all_eq_true] at h
  exact h _ _ hp

theorem holds_iff {ls : LockSet} {l} : holds ls l = true ↔ ∃ m, (l, m) ∈ ls := by
  simp [holds, List.any_eq_true]
theorem holdsEx_mem {ls : LockSet} {l} (h : holdsEx ls l = true) : (l, Mode.ex) ∈ ls := by
  simpa [holdsEx, List.any_eq_true] using h
theorem holdsSh_mem {ls : LockSet} {l} (h : holdsSh ls l = true) : (l, Mode.sh) ∈ ls := by
  simpa [holdsSh, List.any_eq_true] using h

theorem altOK_mem {ls alt : LockSet} (h : altOK ls alt = true) {p} (hp : p ∈ alt) : satisfies ls p = true := by
  simp [altOK, List.all_eq_true] at h
  exact h _ _ hp

/-- a satisfied demand is in the lockset, exclusively if it was demanded so -/
theorem mem_of_satisfies {ls : LockSet} {l m} (h : satisfies ls (l, m) = true) :
    ∃ m', (l, m') ∈ ls ∧ (m = .ex → m' = .ex) := by
  cases m with
  | ex => exact ⟨.ex, holdsEx_mem h, id⟩
  | sh => obtain ⟨m', hm⟩ := holds_iff.1 h; exact ⟨m', hm, nofun⟩

@[simp] theorem exH_setEx (L : LState) (l k : Lock) (o) : (setEx L l o).exH k = if k = l then o else L.exH k := rfl
theorem shH_setEx (L : LState) (l k : Lock) (o) : (setEx L l o).shH k = L.shH k := rfl
theorem exH_setSh (L : LState) (l k : Lock) (r) : (setSh L l r).exH k = L.exH k := rfl
@[simp] theorem shH_setSh (L : LState) (l k : Lock) (r) : (setSh L l r).shH k = if k = l then r else L.shH k := rfl

theorem check_node {P : Prog} (hc : check P = true) {pc : Nat} (h : pc < P.code.length) :
    ∃ i ls ls', P.code[pc]? = some i ∧ P.annot[pc]? = some ls ∧ post P ls i.op = some ls' ∧
      ∀ s ∈ i.succ, ∃ a, P.annot[s]? = some a ∧ s < P.code.length ∧ subset a ls' = true := by
  simp only [check, Bool.and_eq_true, List.all_eq_true, List.mem_range] at hc
  have h := hc.2 pc h
  unfold checkAt at h
  split at h
  next i ls hi hl =>
    split at h
    next => cases h
    next ls' hp =>
      refine ⟨i, ls, ls', hi, hl, hp, fun s hs => ?_⟩
      have := List.all_eq_true.1 h s hs
      split at this
      next a ha => simp at this; exact ⟨a, ha, this⟩
      next => cases this
  next => cases h

theorem check_entry {P : Prog} (hc : check P = true) : P.annot[0]? = some [] ∧ 0 < P.code.length := by
  simp [check] at hc; exact ⟨hc.1.2, hc.1.1.2⟩

theorem check_policyOK {P : Prog} (hc : check P = true) : policyOK P = true := by
  simp [check] at hc; exact hc.1.1.1.1

/-- goroutine `t` holds lock `l` in mode `m` -/
def Has (L : LState) (t : Tid) (l : Lock) : Mode → Prop
  | .ex => L.exH l = some t
  | .sh => t ∈ L.shH l

/-- no lock has an exclusive holder and shared ones -/
def WF (L : LState) : Prop := ∀ l t, L.exH l = some t → L.shH l = []

/-- an exclusive holder is the only holder -/
theorem ex_unique {L : LState} (wf : WF L) {u t : Tid} {l : Lock} {m : Mode}
    (hu : L.exH l = some u) (ht : Has L t l m) : t = u ∧ m = .ex := by
  cases m with
  | ex => exact ⟨Option.some.inj (ht.symm.trans hu), rfl⟩
  | sh => rw [Has, wf l u hu] at ht; cases ht

theorem Inv.has {P : Prog} {s : State} (h : Inv P s) {t pc ls l m} (hpc : s.pc t = some pc)
    (hl : P.annot[pc]? = some ls) (hm : (l, m) ∈ ls) : Has s.locks t l m := by
  cases m with
  | ex => exact h.hex t pc ls l hpc hl hm
  | sh => exact h.hsh t pc ls l hpc hl hm

theorem Has.setEx {L : LState} {l k : Lock} {o u m} (held : Has L u k m) (h : m = .ex → k = l → o = some u) :
    Has (setEx L l o) u k m := by
  cases m with
  | ex =>
    rw [Has, exH_setEx]
    split
    next e => exact h rfl e
    next => exact held
  | sh => exact held

theorem Has.setSh {L : LState} {l k : Lock} {r u m} (held : Has L u k m) (h : m = .sh → k = l → u ∈ r) :
    Has (setSh L l r) u k m := by
  cases m with
  | ex => exact held
  | sh =>
    rw [Has, shH_setSh]
    split
    next e => exact h rfl e
    next => exact held

theorem mem_filter_ne {ls : LockSet} {l l' : Lock} {m} (h : (l', m) ∈ ls.filter (fun p => p.1 != l)) :
    (l', m) ∈ ls ∧ l' ≠ l := by
  simpa [List.mem_filter] using h

/-- the operation by which a goroutine gives up a lock it holds in mode `m` -/
def release : Mode → Lock → Op
  | .ex, l => .unlock l
  | .sh, l => .runlock l

/-- across `t`'s `op` everybody keeps what he holds, unless `op` releases just that: then only the others
do, and only a shared hold -/
theorem lockStep_has {L L' : LState} {t u : Tid} {op : Op} {k : Lock} {m : Mode}
    (hL : lockStep L t op = some L') (held : Has L u k m) (hne : op = release m k → u ≠ t ∧ m = .sh) :
    Has L' u k m := by
  cases op with
  | lock l =>
    simp only [lockStep] at hL
    split at hL <;> cases hL
    next hfree => exact held.setEx (by rintro rfl rfl; exact nomatch hfree.1.symm.trans held)
  | rlock l =>
    simp only [lockStep] at hL
    split at hL <;> cases hL
    exact held.setSh (by rintro rfl rfl; exact List.mem_cons_of_mem _ held)
  | unlock l => cases hL; exact held.setEx (by rintro rfl rfl; exact nomatch (hne rfl).2)
  | runlock l => cases hL; exact held.setSh (by rintro rfl rfl; exact (List.mem_erase_of_ne (hne rfl).1).2 held)
  | _ => cases hL; exact held

/-- the lock-state half of `inv_step`: goroutine `t`, holding `ls`, executes `op` -/
theorem lockStep_inv {P : Prog} {L L' : LState} {t : Tid} {op : Op} {ls ls' : LockSet} (wf : WF L)
    (own : ∀ l m, (l, m) ∈ ls → Has L t l m) (hp : post P ls op = some ls') (hL : lockStep L t op = some L') :
    WF L' ∧ (∀ l m, (l, m) ∈ ls' → Has L' t l m) ∧ ∀ u l m, u ≠ t → Has L u l m → Has L' u l m := by
  -- nobody else holds what `t` unlocks, for `t` holds it: `post` saw it in `ls`
  have others : ∀ u l m, u ≠ t → Has L u l m → Has L' u l m := fun u l m hu held =>
    lockStep_has hL held fun hop => ⟨hu, by
      cases m with
      | sh => rfl
      | ex =>
        subst hop; simp only [release, post] at hp
        split at hp <;> cases hp
        next hh => exact absurd (ex_unique wf (own l .ex (holdsEx_mem hh)) held).1 hu⟩
  suffices h : WF L' ∧ ∀ l m, (l, m) ∈ ls' → Has L' t l m from ⟨h.1, h.2, others⟩
  clear others
  cases op with
  | lock l =>
    simp only [lockStep, post] at hL hp
    split at hL <;> cases hL
    split at hp <;> cases hp
    next hfree hnh =>
    refine ⟨fun k u hk => ?_, fun k m hk => ?_⟩
    · rw [exH_setEx] at hk
      split at hk
      next e => exact e ▸ hfree.2
      next => exact wf k u hk
    · rcases List.mem_cons.1 hk with e | hk
      · cases e; simp [Has]
      · exact (own k m hk).setEx fun _ (e : k = l) => absurd (holds_iff.2 ⟨m, e ▸ hk⟩) hnh
  | rlock l =>
    simp only [lockStep, post] at hL hp
    split at hL <;> cases hL
    split at hp <;> cases hp
    next hfree hnh =>
    refine ⟨fun k u hk => ?_, fun k m hk => ?_⟩
    · have hne : k ≠ l := by rintro rfl; exact nomatch hfree.symm.trans hk
      rw [shH_setSh, if_neg hne]; exact wf k u hk
    · rcases List.mem_cons.1 hk with e | hk
      · cases e; simp [Has]
      · exact (own k m hk).setSh fun _ (e : k = l) => absurd (holds_iff.2 ⟨m, e ▸ hk⟩) hnh
  | unlock l =>
    simp only [lockStep, post] at hL hp
    cases hL
    split at hp <;> cases hp
    refine ⟨fun k u hk => ?_, fun k m hk => ?_⟩
    · rw [exH_setEx] at hk
      split at hk
      · cases hk
      · exact wf k u hk
    · obtain ⟨hk, hne⟩ := mem_filter_ne hk
      exact (own k m hk).setEx fun _ e => absurd e hne
  | runlock l =>
    simp only [lockStep, post] at hL hp
    cases hL
    split at hp <;> cases hp
    refine ⟨fun k u hk => ?_, fun k m hk => ?_⟩
    · have := wf k u hk
      rw [shH_setSh]
      split
      next e => rw [← e, this]; rfl
      next => exact this
    · obtain ⟨hk, hne⟩ := mem_filter_ne hk
      exact (own k m hk).setSh fun _ e => absurd e hne
  | read v | write v | ret =>
    cases hL; simp only [post] at hp; split at hp <;> cases hp
    exact ⟨wf, own⟩
  | other => cases hL; cases hp; exact ⟨wf, own⟩
  | unknown => cases hp

/-- what a scheduler decision does: nothing (or `t` starts a call), or `t` executes the node it is at
and moves on to `np` -/
theorem step_cases (P : Prog) (s : State) (t : Tid) (c : Nat) :
    (step P s t c = s ∨ step P s t c = { s with pc := setPc s.pc t (some 0) }) ∨
    ∃ pc i L' np, s.pc t = some pc ∧ P.code[pc]? = some i ∧ lockStep s.locks t i.op = some L' ∧
      (i.op = .ret ∧ np = none ∨ i.op ≠ .ret ∧ ∃ n, i.succ[c]? = some n ∧ np = some n) ∧
      step P s t c = { locks := L', pc := setPc s.pc t np } := by
  unfold step
  split
  · exact .inl (.inr rfl)
  next pc hpc =>
    split
    · exact .inl (.inl rfl)
    next i hi =>
      split
      · exact .inl (.inl rfl)
      next L' hL =>
        split
        next hop => exact .inr ⟨pc, i, L', none, hpc, hi, hL, .inl ⟨hop, rfl⟩, rfl⟩
        next hop =>
          split
          next n hn => exact .inr ⟨pc, i, L', some n, hpc, hi, hL, .inr ⟨hop, n, hn, rfl⟩, rfl⟩
          · exact .inl (.inl rfl)

/-- `t` moves to `np` while the locks become `L'`, in which the others hold what they held and `t` holds
what `np` demands -/
theorem inv_move {P : Prog} {s : State} {L' : LState} {t : Tid} {np : Option Nat}
    (hb : ∀ u pc, s.pc u = some pc → pc < P.code.length) (hI : Inv P s) (wf' : WF L')
    (others : ∀ u l m, u ≠ t → Has s.locks u l m → Has L' u l m)
    (mine : ∀ n, np = some n →
      n < P.code.length ∧ ∀ ls l m, P.annot[n]? = some ls → (l, m) ∈ ls → Has L' t l m) :
    Inv P { locks := L', pc := setPc s.pc t np } ∧
      ∀ u pc, setPc s.pc t np u = some pc → pc < P.code.length := by
  have key : ∀ u pc, setPc s.pc t np u = some pc →
      pc < P.code.length ∧ ∀ ls l m, P.annot[pc]? = some ls → (l, m) ∈ ls → Has L' u l m := by
    intro u pc hu
    unfold setPc at hu
    split at hu
    next e => exact e ▸ mine pc hu
    next e => exact ⟨hb u pc hu, fun ls l m hl hm => others u l m e (hI.has hu hl hm)⟩
  exact ⟨⟨wf', fun u pc ls l hu hl hm => (key u pc hu).2 ls l .ex hl hm,
    fun u pc ls l hu hl hm => (key u pc hu).2 ls l .sh hl hm⟩, fun u pc hu => (key u pc hu).1⟩

theorem inv_step (P : Prog) (hc : check P = true) (s : State) (t : Tid) (c : Nat)
    (hb : ∀ u pc, s.pc u = some pc → pc < P.code.length)
    (h : Inv P s) : Inv P (step P s t c) ∧ (∀ u pc, (step P s t c).pc u = some pc → pc < P.code.length) := by
  rcases step_cases P s t c with (h0 | h0) | ⟨pc, i, L', np, hpc, hi, hL, hnp, h0⟩ <;> rw [h0]
  · exact ⟨h, hb⟩
  · obtain ⟨h00, hpos⟩ := check_entry hc
    refine inv_move hb h h.wf (fun _ _ _ _ x => x) ?_
    rintro n ⟨⟩
    exact ⟨hpos, fun ls l m hl hm => by rw [h00] at hl; cases hl; cases hm⟩
  · obtain ⟨i', ls, ls', hi', hl, hp, hs⟩ := check_node hc (hb t pc hpc)
    cases hi.symm.trans hi'
    obtain ⟨wf', own', others⟩ := lockStep_inv h.wf (fun l m => h.has hpc hl) hp hL
    refine inv_move hb h wf' others fun n hn => ?_
    obtain ⟨-, rfl⟩ | ⟨-, n', hn', rfl⟩ := hnp <;> cases hn
    obtain ⟨a, ha, hlt, hsub⟩ := hs n (List.mem_of_getElem? hn')
    exact ⟨hlt, fun ls l m hl hm => by rw [ha] at hl; cases hl; exact own' l m (subset_mem hsub hm)⟩

theorem inv_run (P : Prog) (hc : check P = true) (sched : List (Tid × Nat)) :
    ∀ s, (∀ u pc, s.pc u = some pc → pc < P.code.length) → Inv P s →
      Inv P (run P s sched) ∧ (∀ u pc, (run P s sched).pc u = some pc → pc < P.code.length) := by
  induction sched with
  | nil => intro s hb h; exact ⟨h, hb⟩
  | cons x xs ih =>
    intro s hb h
    obtain ⟨h', hb'⟩ := inv_step P hc s x.1 x.2 hb h
    exact ih _ hb' h'

theorem inv_reach (P : Prog) (hc : check P = true) (sched : List (Tid × Nat)) :
    Inv P (run P init sched) ∧ ∀ u pc, (run P init sched).pc u = some pc → pc < P.code.length :=
  inv_run P hc sched init nofun ⟨nofun, nofun, nofun⟩

def accessOf (P : Prog) (pc : Nat) : Option (Var × Bool) :=   -- (variable, isWrite)
  match P.code[pc]? with
  | some ⟨.read v, _⟩ => some (v, false)
  | some ⟨.write v, _⟩ => some (v, true)
  | _ => none

theorem accessOf_lt {P : Prog} {pc : Nat} {x : Var × Bool} (h : accessOf P pc = some x) : pc < P.code.length := by
  unfold accessOf at h
  split at h <;> cases h <;> exact (List.getElem?_eq_some_iff.1 ‹_›).1

/-- an accepted access holds one alternative of the variable's policy -/
theorem access_alt {P : Prog} (hc : check P = true) {pc : Nat} {v : Var} {w : Bool}
    (ha : accessOf P pc = some (v, w)) :
    ∃ ls alt, P.annot[pc]? = some ls ∧ alt ∈ altsOf P v w ∧ altOK ls alt = true := by
  unfold accessOf at ha
  split at ha <;> cases ha
  all_goals
    rename_i hi
    obtain ⟨i, ls, ls', hi', hl, hp, -⟩ := check_node hc (List.getElem?_eq_some_iff.1 hi).1
    cases hi.symm.trans hi'
    simp only [post] at hp
    split at hp <;> cases hp
    next h => obtain ⟨alt, h1, h2⟩ := List.any_eq_true.1 h; exact ⟨ls, alt, hl, h1, h2⟩

/-- `policyOK`: a write alternative excludes every alternative of the same variable -/
theorem policy_excl {P : Prog} (h : policyOK P = true) {v : Var} {w : Bool} {a b : LockSet}
    (ha : a ∈ altsOf P v true) (hb : b ∈ altsOf P v w) : excl a b = true := by
  unfold altsOf at ha hb
  cases hf : P.policy.find? (·.var == v) with
  | none => rw [hf] at ha; cases ha
  | some p =>
    rw [hf] at ha hb
    simp only [policyOK, List.all_eq_true] at h
    refine h p (List.mem_of_find?_eq_some hf) a ha b (List.mem_append.2 ?_)
    cases w
    · exact .inl hb
    · exact .inr hb

/-- two goroutines satisfy alternatives of which the first needs exclusively a lock the second needs too:
they are one goroutine -/
theorem no_conflict {P : Prog} {s : State} (hI : Inv P s) {t1 t2 : Tid} {pc1 pc2 : Nat} {ls1 ls2 a b : LockSet}
    (h1 : s.pc t1 = some pc1) (h2 : s.pc t2 = some pc2) (hl1 : P.annot[pc1]? = some ls1)
    (hl2 : P.annot[pc2]? = some ls2) (ok1 : altOK ls1 a = true) (ok2 : altOK ls2 b = true)
    (h : a.any (fun p => p.2 == Mode.ex && holds b p.1) = true) : t2 = t1 := by
  simp only [List.any_eq_true, Bool.and_eq_true, beq_iff_eq] at h
  obtain ⟨⟨l, m⟩, hmem, hm, hh⟩ := h
  obtain ⟨m', hmem'⟩ := holds_iff.1 hh
  obtain ⟨_, hm1, he⟩ := mem_of_satisfies (altOK_mem ok1 hmem)
  obtain ⟨_, hm2, -⟩ := mem_of_satisfies (altOK_mem ok2 hmem')
  cases he hm
  exact (ex_unique hI.wf (hI.has h1 hl1 hm1) (hI.has h2 hl2 hm2)).1

/-- **Soundness**: if the annotated program passes `check`, then in every state reachable under
any schedule of any number of goroutines, two distinct goroutines are never simultaneously at
conflicting accesses (same variable, at least one a write). -/
theorem check_sound (P : Prog) (hc : check P = true) (sched : List (Tid × Nat))
    (t1 t2 : Tid) (hne : t1 ≠ t2) (pc1 pc2 : Nat) (v : Var) (w2 : Bool)
    (h1 : (run P init sched).pc t1 = some pc1) (h2 : (run P init sched).pc t2 = some pc2)
    (a1 : accessOf P pc1 = some (v, true)) (a2 : accessOf P pc2 = some (v, w2)) : False := by
  have hI := (inv_reach P hc sched).1
  obtain ⟨ls1, alt1, hl1, hm1, ok1⟩ := access_alt hc a1
  obtain ⟨ls2, alt2, hl2, hm2, ok2⟩ := access_alt hc a2
  have hex := policy_excl (check_policyOK hc) hm1 hm2
  simp only [excl, Bool.or_eq_true] at hex
  rcases hex with h | h
  · exact hne (no_conflict hI h1 h2 hl1 hl2 ok1 ok2 h).symm
  · exact hne (no_conflict hI h2 h1 hl2 hl1 ok2 ok1 h)

/-- **critical sections are exclusive**: while a goroutine is at a node whose annotation holds lock
`l` exclusively, no other goroutine is at a node whose annotation holds `l` in any mode — under
every schedule.  Everything a goroutine does between taking and releasing an exclusive lock is
therefore done without another holder of that lock in between. -/
theorem critical_section_exclusive (P : Prog) (hc : check P = true) (sched : List (Tid × Nat))
    (t1 t2 : Tid) (hne : t1 ≠ t2) (pc1 pc2 : Nat) (ls1 ls2 : LockSet) (l : Lock) (m : Mode)
    (h1 : (run P init sched).pc t1 = some pc1) (h2 : (run P init sched).pc t2 = some pc2)
    (a1 : P.annot[pc1]? = some ls1) (a2 : P.annot[pc2]? = some ls2)
    (e1 : (l, Mode.ex) ∈ ls1) (e2 : (l, m) ∈ ls2) : False :=
  have hI := (inv_reach P hc sched).1
  hne (ex_unique hI.wf (hI.has h1 a1 e1) (hI.has h2 a2 e2)).1.symm

/-- the nodes at which the program accesses variable `v` -/
def accessNodes (P : Prog) (v : Var) : List Nat :=
  (List.range P.code.length).filter fun pc =>
    match accessOf P pc with
    | some (v', _) => v' == v
    | none => false

/-- every node accessing `v` holds lock `l` exclusively, or holds lock `l'` exclusively -/
def allUnder (P : Prog) (v : Var) (l l' : Lock) : Bool :=
  (accessNodes P v).all fun pc =>
    match P.annot[pc]? with
    | some ls => holdsEx ls l || holdsEx ls l'
    | none => false

/-! ## a concrete program: a Send-like method with a conditional lock (rejected) and an
unconditional one (accepted) -/

def demoPolicy : List Policy :=
  [{ var := 0, readAlts := [[(0, .sh)]], writeAlts := [[(0, .ex)]] },
   { var := 1, readAlts := [[(1, .ex), (0, .sh)], [(0, .ex)]], writeAlts := [[(1, .ex), (0, .sh)], [(0, .ex)]] }]

/-- `RLock 0; read v0; Lock 1; write v1 (the wire); Unlock 1; RUnlock 0; ret` -/
def good : Prog := {
  code := [⟨.rlock 0, [1]⟩, ⟨.read 0, [2, 6]⟩, ⟨.lock 1, [3]⟩, ⟨.write 1, [3, 4]⟩,
           ⟨.unlock 1, [5]⟩, ⟨.runlock 0, [7]⟩, ⟨.runlock 0, [7]⟩, ⟨.ret, []⟩],
  annot := [[], [(0, .sh)], [(0, .sh)], [(1, .ex), (0, .sh)], [(1, .ex), (0, .sh)],
            [(0, .sh)], [(0, .sh)], []],
  policy := demoPolicy }

/-- the lock is taken on one branch only: the write at pc 3 is not protected on every path -/
def bad : Prog := { good with
  code := [⟨.rlock 0, [1]⟩, ⟨.read 0, [2, 3]⟩, ⟨.lock 1, [3]⟩, ⟨.write 1, [3, 4]⟩,
           ⟨.unlock 1, [5]⟩, ⟨.runlock 0, [7]⟩, ⟨.runlock 0, [7]⟩, ⟨.ret, []⟩],
  annot := [[], [(0, .sh)], [(0, .sh)], [(0, .sh)], [(0, .sh)], [(0, .sh)], [(0, .sh)], []] }

theorem good_ok : check good = true := by decide
theorem bad_rejected : check bad = false := by decide

end FV.Lk
