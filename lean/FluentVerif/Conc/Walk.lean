import FluentVerif.Conc.Lockset
/-! `check` looks every node and every successor up by index, and in the kernel each step of
`l[i]?` costs as much as a whole `subset` test: on a graph of n nodes that is 3n²/2 such steps.
`checkFast` walks `code` and `annot` side by side, so a
node's own instruction and annotation are at hand, and finds the annotation of a successor at or
after the node by its distance in the remaining list (branches jump a few nodes ahead); only a
backward edge is looked up from the start.  `check_of_checkFast` is what the regenerated graphs
are checked through. -/
namespace FV.Lk

/-- the body of `checkAt`, with the node's instruction and annotation given and the successors'
annotations found by `look` -/
def checkNode (P : Prog) (look : Nat → Option LockSet) (i : Instr) (ls : LockSet) : Bool :=
  match post P ls i.op with
  | none => false
  | some ls' => i.succ.all (fun s =>
      match look s with
      | some a => s < P.code.length && subset a ls'
      | none => false)

theorem checkAt_eq {P : Prog} {pc : Nat} {i : Instr} {ls : LockSet} (hi : P.code[pc]? = some i)
    (hl : P.annot[pc]? = some ls) : checkAt P pc = checkNode P (P.annot[·]?) i ls := by
  simp only [checkAt, hi, hl]; rfl

/-- `code` and `annot` from node `pc` on -/
def walk (P : Prog) : Nat → List Instr → List LockSet → Bool
  | _, [], _ => true
  | _, _ :: _, [] => false
  | pc, i :: code, ls :: rest =>
    checkNode P (fun s => if pc ≤ s then (ls :: rest)[s - pc]? else P.annot[s]?) i ls &&
      walk P (pc + 1) code rest

def checkFast (P : Prog) : Bool :=
  policyOK P && P.annot.length == P.code.length && 0 < P.code.length && P.annot[0]? == some [] &&
    walk P 0 P.code P.annot

theorem getElem?_of_drop {α} {l : List α} {n : Nat} {a : α} {t : List α} (h : l.drop n = a :: t) :
    l[n]? = some a ∧ l.drop (n + 1) = t := by
  have := List.getElem?_drop (xs := l) (i := n) (j := 0)
  rw [h] at this
  exact ⟨this.symm, by rw [← List.drop_drop, h]; rfl⟩

theorem walk_sound {P : Prog} : ∀ (code : List Instr) (annot : List LockSet) (pc : Nat),
    P.code.drop pc = code → P.annot.drop pc = annot → walk P pc code annot = true →
      ∀ k, pc ≤ k → k < P.code.length → checkAt P k = true
  | [], _, pc, hc, _, _, k, hk, hlt => by have := List.drop_eq_nil_iff.1 hc; omega
  | i :: code, ls :: rest, pc, hc, ha, h, k, hk, hlt => by
    obtain ⟨hi, hc'⟩ := getElem?_of_drop hc
    obtain ⟨hl, ha'⟩ := getElem?_of_drop ha
    simp only [walk, Bool.and_eq_true] at h
    rcases Nat.eq_or_lt_of_le hk with rfl | hk
    · rw [checkAt_eq hi hl, ← h.1]
      congr; funext s
      split
      next hle => rw [← ha, List.getElem?_drop, Nat.add_sub_cancel' hle]
      · rfl
    · exact walk_sound code rest (pc + 1) hc' ha' h.2 k hk hlt

theorem check_of_checkFast {P : Prog} (h : checkFast P = true) : check P = true := by
  simp only [checkFast, Bool.and_eq_true] at h
  simp only [check, Bool.and_eq_true, List.all_eq_true, List.mem_range]
  exact ⟨h.1, fun k hk => walk_sound P.code P.annot 0 rfl rfl h.2 k (Nat.zero_le k) hk⟩

end FV.Lk
