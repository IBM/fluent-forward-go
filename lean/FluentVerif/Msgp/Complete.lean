import FluentVerif.Msgp.Sound
/-! `ReadIntf` accepts every legal encoding of a *plain* object (no extension objects, string map
keys) and returns exactly the object the specification parser finds — on both paths. -/
namespace FV

mutual
def Obj.Plain : Obj → Prop
  | .ext _ _ => False
  | .arr xs => Objs.Plain xs
  | .map kvs => Objs.PlainKV kvs
  | _ => True
def Objs.Plain : Objs → Prop
  | .nil => True
  | .cons x xs => Obj.Plain x ∧ Objs.Plain xs
def Objs.PlainKV : Objs → Prop
  | .nil => True
  | .cons k (.cons v r) => (∃ s, k = .str s) ∧ Obj.Plain v ∧ Objs.PlainKV r
  | .cons _ .nil => False
end

theorem readIntfF_scalar {p f b s r} (h : header b = some (.scalar s, r)) : readIntfF p (f+1) b = .ok s.toObj r := by
  obtain ⟨_, _, rfl⟩ := header_cons h
  simp only [readIntfF, h]

theorem readIntfF_blob {p f b k s r} (h : header b = some (.blob k s.length, s ++ r)) :
    readIntfF p (f+1) b = .ok (blobObj k s) r := by
  obtain ⟨_, _, rfl⟩ := header_cons h
  simp [readIntfF, h]

theorem readIntfF_ext {p f lead tl t d r} (h : header (lead :: tl) = some (.ext d.length, t :: (d ++ r)))
    (hok : extOk p lead d.length t tl.length = true) : readIntfF p (f+1) (lead :: tl) = .ok (.ext t d) r := by
  simp [readIntfF, h, hok]

theorem readIntfF_arr {p f b n r0 xs r} (h : header b = some (.arr n, r0)) (hs : readIntfN p f n r0 = .ok xs r) :
    readIntfF p (f+1) b = .ok (.arr xs) r := by
  obtain ⟨_, _, rfl⟩ := header_cons h
  simp only [readIntfF, h, hs, Res.map]

theorem readIntfF_map {p f b n r0 xs r} (h : header b = some (.map n, r0)) (hs : readIntfKV p f n r0 = .ok xs r) :
    readIntfF p (f+1) b = .ok (.map xs) r := by
  obtain ⟨_, _, rfl⟩ := header_cons h
  simp only [readIntfF, h, hs, Res.map]

theorem readIntfN_cons {p f n b x r1 xs r} (h1 : readIntfF p f b = .ok x r1) (h2 : readIntfN p f n r1 = .ok xs r) :
    readIntfN p (f+1) (n+1) b = .ok (.cons x xs) r := by
  simp only [readIntfN, h1, h2, Res.bind, Res.map]

theorem readIntfKV_cons {p f n b k s r1 v r2 kvs r} (hh : header b = some (.blob k s.length, s ++ r1))
    (hk : ¬ (p = .stream ∧ k = .bin)) (h1 : readIntfF p f r1 = .ok v r2) (h2 : readIntfKV p f n r2 = .ok kvs r) :
    readIntfKV p (f+1) (n+1) b = .ok (.cons (blobObj k s) (.cons v kvs)) r := by
  simp [readIntfKV, hh, hk, h1, h2, Res.bind, Res.map]

/-- more fuel changes nothing: each case of the induction is one of the equations above, a unit of fuel up -/
theorem readIntf_mono (p : Path) : ∀ f, (∀ {b o r}, readIntfF p f b = .ok o r → readIntfF p (f+1) b = .ok o r) ∧
    (∀ {n b os r}, readIntfN p f n b = .ok os r → readIntfN p (f+1) n b = .ok os r) ∧
    (∀ {n b os r}, readIntfKV p f n b = .ok os r → readIntfKV p (f+1) n b = .ok os r) :=
  readIntf_induction (scalar := readIntfF_scalar) (blob := readIntfF_blob) (ext := readIntfF_ext)
    (arr := readIntfF_arr) (map := readIntfF_map) (nil := rfl) (cons := fun _ ih1 ih2 => readIntfN_cons ih1 ih2)
    (knil := rfl) (kcons := fun hh hk _ ih1 ih2 => readIntfKV_cons hh hk ih1 ih2)

theorem readIntfN_mono (p : Path) : ∀ (f n : Nat) (b : Bytes) (os r), readIntfN p f n b = .ok os r →
    readIntfN p (f+1) n b = .ok os r :=
  fun f _ _ _ _ h => (readIntf_mono p f).2.1 h

/- Not by `At.induction`, which takes a run apart one element at a time: a map's run goes in pairs (`readIntfKV`). -/
mutual
theorem Obj.At.readIntf (p : Path) : ∀ (o : Obj) {b r : Bytes} {f : Nat}, Obj.At o b r → Obj.Plain o → o.fuel ≤ f + 1 →
    readIntfF p (f+1) b = .ok o r
  | .ext _ _ => fun _ hp _ => hp.elim
  | .nil => fun h _ _ => readIntfF_scalar (s := .nil) h
  | .bool v => fun h _ _ => readIntfF_scalar (s := .bool v) h
  | .int i => fun h _ _ => readIntfF_scalar (s := .int i) h
  | .f32 x => fun h _ _ => readIntfF_scalar (s := .f32 x) h
  | .f64 x => fun h _ _ => readIntfF_scalar (s := .f64 x) h
  | .str _ => fun h _ _ => readIntfF_blob (k := .str) h
  | .bin _ => fun h _ _ => readIntfF_blob (k := .bin) h
  | .arr xs => fun ⟨_, hh, hs⟩ hp hf => by
    obtain ⟨g, rfl, hg⟩ := Objs.fuel_succ hf
    exact readIntfF_arr hh (Objs.At.readIntfN p xs hs hp hg)
  | .map xs => fun ⟨_, _, hh, hl, hs⟩ hp hf => by
    obtain ⟨g, rfl, hg⟩ := Objs.fuel_succ hf
    exact readIntfF_map hh (Objs.At.readIntfKV p xs hs hl hp hg)
theorem Objs.At.readIntfN (p : Path) : ∀ (os : Objs) {b r : Bytes} {f : Nat}, Objs.At os b r → Objs.Plain os →
    os.fuel ≤ f + 1 → readIntfN p (f+1) os.length b = .ok os r
  | .nil => fun h _ _ => by cases h; rfl
  | .cons x xs => fun ⟨_, h1, h2⟩ hp hf => by
    obtain ⟨g, rfl, hx, hxs⟩ := Objs.fuel_cons hf
    exact readIntfN_cons (Obj.At.readIntf p x h1 hp.1 hx) (Objs.At.readIntfN p xs h2 hp.2 hxs)
theorem Objs.At.readIntfKV (p : Path) : ∀ (os : Objs) {n : Nat} {b r : Bytes} {f : Nat}, Objs.At os b r →
    os.length = 2 * n → Objs.PlainKV os → os.fuel ≤ f + 1 → readIntfKV p (f+1) n b = .ok os r
  | .nil, 0 => fun h _ _ _ => by cases h; rfl
  | .cons k (.cons v kvs), n+1 => fun ⟨_, h1, _, h2, h3⟩ hl ⟨⟨s, hk⟩, hv, hkv⟩ hf => by
    subst hk
    -- `Objs.fuel` has a unit for each element, the decoder spends one for the pair: one to spare for the tail
    obtain ⟨g, rfl, _, hf⟩ := Objs.fuel_cons hf
    obtain ⟨_, e, hv', hkvs⟩ := Objs.fuel_cons (Nat.le_succ_of_le hf)
    cases e
    exact readIntfKV_cons (k := .str) h1 (fun h => nomatch h.2) (Obj.At.readIntf p v h2 hv hv')
      (Objs.At.readIntfKV p kvs h3 (by simp only [Objs.length] at hl; omega) hkv hkvs)
  | .nil, _+1 | .cons _ (.cons _ _), 0 => fun _ hl _ _ => by simp [Objs.length] at hl
  | .cons _ .nil, _ => fun _ _ h _ => h.elim
end

theorem readIntfN_complete (p : Path) : ∀ (f n : Nat) (b : Bytes) (os r), parseN f n b = some (os, r) →
    Objs.Plain os → readIntfN p f n b = .ok os r
  | 0, _, _, _, _, h, _ => nomatch h
  | _+1, _, _, os, _, h, hp => have ⟨⟨hl, ha⟩, hf⟩ := parseN_iff.1 h; hl ▸ Objs.At.readIntfN p os ha hp hf

theorem readIntfKV_complete (p : Path) : ∀ (f n : Nat) (b : Bytes) (os r), parseN f (2*n) b = some (os, r) →
    Objs.PlainKV os → readIntfKV p f n b = .ok os r
  | 0, _, _, _, _, h, _ => nomatch h
  | _+1, _, _, os, _, h, hp => have ⟨⟨hl, ha⟩, hf⟩ := parseN_iff.1 h; Objs.At.readIntfKV p os ha hl hp hf

theorem readIntf_complete (p : Path) {b o r} (h : parse b = some (o, r)) (hp : Obj.Plain o) :
    readIntf p b = .ok o r :=
  -- `readIntf` runs on the fuel `parse` gives itself: `parseF_iff`'s bound is the one asked for
  have ⟨ha, hf⟩ := parseF_iff.1 h
  Obj.At.readIntf p o ha hp hf

end FV
