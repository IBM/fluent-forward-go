import FluentVerif.Msgp.Sound
/-! # Count-driven allocation of `msgp.ReadIntfBytes` (C10, memory clause)

The slice decoders request memory in two ways.  A *length*-sized request (`string(b[:n])`, a copied
`bin`, an extension payload) is made only after the model's `r.length < n → err` test, so it never
exceeds the input.  A *count*-sized request is made **before** the elements are read:
`make([]interface{}, sz)` for an array and `make(map[string]interface{}, sz)` for a map, with `sz`
the declared count.  `allocIntfF` counts the elements requested that way, following `readIntfF .bytes`
statement by statement (same fuel, same order, it stops where the decoder stops). -/
namespace FV

mutual
/-- elements requested by `ReadIntfBytes` on `b` -/
def allocIntfF : Nat → Bytes → Nat
  | 0, _ => 0
  | f+1, b =>
    match header b with
    | some (.arr n, r) => n + allocIntfN f n r
    | some (.map n, r) => n + allocIntfKV f n r
    | _ => 0
/-- … by the element loop of an array of `n` elements -/
def allocIntfN : Nat → Nat → Bytes → Nat
  | 0, _, _ => 0
  | _+1, 0, _ => 0
  | f+1, n+1, b =>
    allocIntfF f b + (match readIntfF .bytes f b with
      | .ok _ r => allocIntfN f n r
      | _ => 0)
/-- … by the key/value loop of `ReadMapStrIntfBytes` -/
def allocIntfKV : Nat → Nat → Bytes → Nat
  | 0, _, _ => 0
  | _+1, 0, _ => 0
  | f+1, n+1, b =>
    match header b with
    | some (.blob _ m, r) =>
      if r.length < m then 0
      else allocIntfF f (r.drop m) + (match readIntfF .bytes f (r.drop m) with
        | .ok _ r' => allocIntfKV f n r'
        | _ => 0)
    | _ => 0
end

/-- elements requested by `ReadIntfBytes(b)` -/
def allocIntf (b : Bytes) : Nat := allocIntfF (2 * b.length + 2) b

/-! ### accepted input: the request is covered by the bytes consumed

Every element of an accepted array or map occupies at least one byte, so on an input the decoder
accepts the elements requested are fewer than the bytes consumed. -/

theorem allocIntf_bound : ∀ f,
    (∀ {b o r}, readIntfF .bytes f b = .ok o r → allocIntfF f b + 1 + r.length ≤ b.length) ∧
    (∀ {n b os r}, readIntfN .bytes f n b = .ok os r → allocIntfN f n b + n + r.length ≤ b.length) ∧
    (∀ {n b os r}, readIntfKV .bytes f n b = .ok os r → allocIntfKV f n b + n + r.length ≤ b.length) :=
  readIntf_induction
    (scalar := fun hh => by have := header_shrinks hh; simp only [allocIntfF, hh]; omega)
    (blob := fun hh => by have := header_shrinks hh; simp only [allocIntfF, hh, List.length_append] at *; omega)
    (ext := fun hh _ => by
      have := header_shrinks hh; simp only [allocIntfF, hh, List.length_cons, List.length_append] at *; omega)
    (arr := fun hh ih => by have := header_shrinks hh; simp only [allocIntfF, hh]; omega)
    (map := fun hh ih => by have := header_shrinks hh; simp only [allocIntfF, hh]; omega)
    (nil := by simp [allocIntfN])
    (cons := fun h1 ih1 ih2 => by simp only [allocIntfN, h1]; omega)
    (knil := by simp [allocIntfKV])
    (kcons := fun {_ _ _ _ s r1 _ _ _ _} hh _ h1 ih1 ih2 => by
      have := header_shrinks hh
      simp only [allocIntfKV, hh, List.length_append, if_neg (Nat.not_lt.2 (Nat.le_add_right s.length r1.length)),
        List.drop_left, h1] at *
      omega)

theorem allocIntfF_le : ∀ (f : Nat) (b : Bytes) (o r), readIntfF .bytes f b = .ok o r →
    allocIntfF f b + 1 + r.length ≤ b.length :=
  fun f _ _ _ h => (allocIntf_bound f).1 h

theorem allocIntfN_le : ∀ (f n : Nat) (b : Bytes) (os r), readIntfN .bytes f n b = .ok os r →
    allocIntfN f n b + n + r.length ≤ b.length :=
  fun f _ _ _ _ h => (allocIntf_bound f).2.1 h

theorem allocIntfKV_le : ∀ (f n : Nat) (b : Bytes) (os r), readIntfKV .bytes f n b = .ok os r →
    allocIntfKV f n b + n + r.length ≤ b.length :=
  fun f _ _ _ _ h => (allocIntf_bound f).2.2 h

/-- `ReadIntfBytes` accepts `b` ⇒ the elements it requested are fewer than the bytes it consumed -/
theorem allocIntf_le {b o r} (h : readIntf .bytes b = .ok o r) : allocIntf b + 1 + r.length ≤ b.length :=
  (allocIntf_bound _).1 h

/-! ### five bytes request 2³² − 1 elements (a message that holds them is rejected: `C10_alloc_witness_*`, `Props/C10.lean`) -/

/-- array32 header declaring `0xffffffff` elements, nothing behind it -/
def allocBomb : Bytes := [0xdd, 0xff, 0xff, 0xff, 0xff]

theorem allocIntf_bomb : allocIntf allocBomb = 4294967295 ∧ allocBomb.length = 5 := by
  constructor
  · decide +kernel
  · rfl

/-- the same with a map32 header (`make(map[string]interface{}, sz)`) -/
theorem allocIntf_bomb_map : allocIntf [0xdf, 0xff, 0xff, 0xff, 0xff] = 4294967295 := by decide +kernel

end FV
