import FluentVerif.Msgp.Complete
import FluentVerif.Msgp.AppendSound
/-! `AppendIntf`/`WriteIntf` on a representable value produce an encoding of exactly the object
the value denotes (judged by the specification parser), and `ReadIntf` returns that object. -/
namespace FV

mutual
theorem GoVal.encode_sound : ∀ (v : GoVal) (e : Bytes), v.WF → v.encode = some e →
    ∀ x, parse (e ++ x) = some (v.toObj, x)
  | .nil, _, _, rfl, x => parse_appendNil x
  | .bool b, _, _, rfl, x => parse_appendBool b x
  | .int i, _, hw, rfl, x => parse_appendInt64 i hw x
  | .uint u, _, hw, rfl, x => parse_appendUint64 u hw x
  | .f32 b, _, hw, rfl, x => parse_appendFloat32 b hw x
  | .f64 b, _, hw, rfl, x => parse_appendFloat64 b hw x
  | .str s, _, hw, rfl, x => parse_appendString s x hw
  | .bin s, _, hw, rfl, x => parse_appendBytes s x hw
  | .arr xs, e, hw, he, x => by
    obtain ⟨eb, heb, rfl⟩ := Option.map_eq_some_iff.1 he
    rw [List.append_assoc]
    exact parse_arr_of_seq (header_appendArrayHeader _ _ hw.1) (GoVals.encode_sound xs eb hw.2 heb x)
  | .map kvs, e, hw, he, x => by
    obtain ⟨eb, heb, rfl⟩ := Option.map_eq_some_iff.1 he
    rw [List.append_assoc]
    exact parse_map_of_seq (header_appendMapHeader _ _ hw.1) (GoKVs.encode_sound kvs eb hw.2 heb x)
  | .bad, _, hw, _, _ => hw.elim
theorem GoVals.encode_sound : ∀ (xs : GoVals) (e : Bytes), xs.WF → xs.encode = some e →
    ∀ x, parseSeq xs.length (e ++ x) = some (xs.toObjs, x)
  | .nil, _, _, rfl, x => rfl
  | .cons v vs, e, hw, he, x => by
    unfold GoVals.encode at he
    split at he <;> cases he
    rw [List.append_assoc]
    exact parseSeq_cons (GoVal.encode_sound v _ hw.1 ‹_› _) (GoVals.encode_sound vs _ hw.2 ‹_› x)
theorem GoKVs.encode_sound : ∀ (kvs : GoKVs) (e : Bytes), kvs.WF → kvs.encode = some e →
    ∀ x, parseSeq (2 * kvs.length) (e ++ x) = some (kvs.toObjs, x)
  | .nil, _, _, rfl, x => rfl
  | .cons k v r, e, hw, he, x => by
    unfold GoKVs.encode at he
    split at he <;> cases he
    rw [List.append_assoc, List.append_assoc]
    exact parseSeq_cons (parse_appendString k _ hw.1)
        (parseSeq_cons (GoVal.encode_sound v _ hw.2.1 ‹_› _) (GoKVs.encode_sound r _ hw.2.2 ‹_› x))
end

mutual
theorem GoVal.toObj_plain : ∀ (v : GoVal), Obj.Plain v.toObj
  | .arr xs => GoVals.toObjs_plain xs
  | .map kvs => GoKVs.toObjs_plain kvs
  | .nil | .bool _ | .int _ | .uint _ | .f32 _ | .f64 _ | .str _ | .bin _ | .bad => trivial
theorem GoVals.toObjs_plain : ∀ (xs : GoVals), Objs.Plain xs.toObjs
  | .nil => trivial
  | .cons v vs => ⟨GoVal.toObj_plain v, GoVals.toObjs_plain vs⟩
theorem GoKVs.toObjs_plain : ∀ (kvs : GoKVs), Objs.PlainKV kvs.toObjs
  | .nil => trivial
  | .cons k v r => ⟨⟨k, rfl⟩, GoVal.toObj_plain v, GoKVs.toObjs_plain r⟩
end

/-- what `ReadIntf` (either path) returns for the encoding of a representable value, whatever follows -/
theorem readIntf_encode (p : Path) (v : GoVal) (e : Bytes) (hw : v.WF) (he : v.encode = some e) (x : Bytes) :
    readIntf p (e ++ x) = .ok v.toObj x :=
  readIntf_complete p (GoVal.encode_sound v e hw he x) (GoVal.toObj_plain v)

end FV
