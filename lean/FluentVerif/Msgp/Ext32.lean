import FluentVerif.Msgp.Read
import FluentVerif.Msgpack.Enc
import FluentVerif.Msgpack.Seq
/-! Lemmas for `hasExt32` (`Msgp/Read.lean`): with the fuel the values need the scan is `hasExt32` / `ext32Seq` (`At.ext32`); a
container holds a token iff one of its elements does; `Run`, a run of values taken apart in step with the scan. -/
namespace FV

/-- `n` values read one after another: does any of them hold an ext32 token -/
def ext32Seq : Nat → Bytes → Bool
  | 0, _ => false
  | n+1, b => hasExt32 b || (match parse b with
      | some (_, r) => ext32Seq n r
      | none => false)

theorem ext32F_of_header {f b h r} : header b = some (h, r) →
    ext32F (f+1) b = (decide (b.head? = some 0xc9) || match h with
      | .arr n => ext32N f n r
      | .map n => ext32N f (2*n) r
      | _ => false) := by
  intro hh
  rw [ext32F, hh]
  by_cases hc : b.head? = some 0xc9
  · rw [if_pos hc, decide_eq_true hc]; rfl
  · rw [if_neg hc, decide_eq_false hc]; cases h <;> rfl

theorem ext32N_zero (f : Nat) (b : Bytes) : ext32N f 0 b = false := by cases f <;> rfl

/-- the fuel `hasExt32` gives a container covers the run of its elements -/
theorem Objs.At.fuel_le {b h r0 os r} (hh : header b = some (h, r0)) (hs : Objs.At os r0 r) :
    os.fuel ≤ 2 * b.length + 1 := by
  have := At.need.2 hs; have := header_shrinks hh; omega

/-- with the fuel the values need, `ext32F` is `hasExt32` and `ext32N` is `ext32Seq` -/
theorem At.ext32 :
    (∀ {o b r}, Obj.At o b r → ∀ {f}, o.fuel ≤ f + 1 → ext32F (f+1) b = hasExt32 b) ∧
    (∀ {os b r}, Objs.At os b r → ∀ {f}, os.fuel ≤ f + 1 → ext32N (f+1) os.length b = ext32Seq os.length b) :=
  At.induction
    (scalar := fun h _ _ => by rw [hasExt32, ext32F_of_header h, ext32F_of_header h])
    (blob := fun h _ _ => by rw [hasExt32, ext32F_of_header h, ext32F_of_header h])
    (ext := fun h _ _ => by rw [hasExt32, ext32F_of_header h, ext32F_of_header h])
    (arr := fun hh hs ih _ hf => by
      obtain ⟨g, rfl, hg⟩ := Objs.fuel_succ hf
      rw [hasExt32, ext32F_of_header hh, ext32F_of_header hh]
      simp only [ih hg, ih (hs.fuel_le hh)])
    (map := fun hh hl hs ih _ hf => by
      obtain ⟨g, rfl, hg⟩ := Objs.fuel_succ hf
      rw [hasExt32, ext32F_of_header hh, ext32F_of_header hh]
      simp only [← hl, ih hg, ih (hs.fuel_le hh)])
    (nil := fun _ => rfl)
    (cons := fun h1 ih1 _ ih2 _ hf => by
      obtain ⟨g, rfl, hx, hxs⟩ := Objs.fuel_cons hf
      simp only [ext32N, ext32Seq, Objs.length, At.parse.1 h1 hx, parse_iff.2 h1, ih1 hx, ih2 hxs])

theorem ext32F_fuel : ∀ (f : Nat) (b : Bytes) (o r), parseF f b = some (o, r) →
    ∀ f', Obj.fuel o ≤ f' → ext32F f' b = ext32F f b :=
  fun _ _ o _ h _ hf' => by
    have ⟨ha, hf⟩ := parseF_iff.1 h
    obtain ⟨f, rfl⟩ := Nat.exists_eq_add_one.2 (Nat.lt_of_lt_of_le o.fuel_pos hf)
    obtain ⟨f', rfl⟩ := Nat.exists_eq_add_one.2 (Nat.lt_of_lt_of_le o.fuel_pos hf')
    exact (At.ext32.1 ha hf').trans (At.ext32.1 ha hf).symm

theorem ext32N_fuel : ∀ (f n : Nat) (b : Bytes) (os r), parseN f n b = some (os, r) →
    ∀ f', Objs.fuel os ≤ f' → ext32N f' n b = ext32N f n b :=
  fun _ _ _ os _ h _ hf' => by
    have ⟨⟨hl, ha⟩, hf⟩ := parseN_iff.1 h
    obtain ⟨f, rfl⟩ := Nat.exists_eq_add_one.2 (Nat.lt_of_lt_of_le os.fuel_pos hf)
    obtain ⟨f', rfl⟩ := Nat.exists_eq_add_one.2 (Nat.lt_of_lt_of_le os.fuel_pos hf')
    exact hl ▸ (At.ext32.2 ha hf').trans (At.ext32.2 ha hf).symm

/-- only an extension header starts with `0xc9` -/
theorem head_ne_c9 {b h r} (hh : header b = some (h, r)) (hne : ∀ n, h ≠ .ext n) : b.head? ≠ some 0xc9 := by
  obtain ⟨x, t, rfl⟩ := header_cons hh
  intro e
  cases (Option.some.inj e : x = 0xc9)
  simp only [header, show classify 0xc9 = .extL 4 by decide +kernel, headerOf] at hh
  exact hne _ (needs_some hh).2.1

/-- an array holds an ext32 token iff one of its elements does -/
theorem hasExt32_arr {b n r0 xs r} (hh : header b = some (.arr n, r0)) (hs : parseSeq n r0 = some (xs, r)) :
    hasExt32 b = ext32Seq n r0 := by
  obtain ⟨rfl, ha⟩ := parseSeq_iff.1 hs
  simp only [hasExt32, ext32F_of_header hh, head_ne_c9 hh (fun _ e => by cases e), decide_false,
    Bool.false_or]
  exact At.ext32.2 ha (ha.fuel_le hh)

theorem hasExt32_map {b n r0 xs r} (hh : header b = some (.map n, r0)) (hs : parseSeq (2*n) r0 = some (xs, r)) :
    hasExt32 b = ext32Seq (2*n) r0 := by
  obtain ⟨hl, ha⟩ := parseSeq_iff.1 hs
  simp only [hasExt32, ext32F_of_header hh, head_ne_c9 hh (fun _ e => by cases e), decide_false,
    Bool.false_or, ← hl]
  exact At.ext32.2 ha (ha.fuel_le hh)

/-- no ext32 token in a run: none in its first value, none in the rest -/
theorem ext32Seq_cons {m b x b1} (h : ext32Seq (m+1) b = false) (hp : parse b = some (x, b1)) :
    hasExt32 b = false ∧ ext32Seq m b1 = false := by
  unfold ext32Seq at h
  rw [hp] at h
  simpa using h

/-- a string holds none (`head_ne_c9`: its header is not an extension's) -/
theorem hasExt32_false_of_str {b s r} (h : parse b = some (.str s, r)) : hasExt32 b = false := by
  have hh : header b = _ := parse_iff.1 h
  simp [hasExt32, ext32F_of_header hh, head_ne_c9 hh (fun _ e => by cases e)]

/-! ### a run of values as the stream walker passes over it

`Run q n b xs r`: the `n` values `xs` are read one after another from `b`, leaving `r`, and (if `q`)
none of them holds an ext32 token: `parseSeq` and `ext32Seq` taken apart in step. -/

inductive Run (q : Prop) : Nat → Bytes → Objs → Bytes → Prop
  | nil {b} : Run q 0 b .nil b
  | cons {n b x b1 xs r} (hp : parse b = some (x, b1)) (hx : q → hasExt32 b = false) (t : Run q n b1 xs r) :
      Run q (n+1) b (.cons x xs) r

theorem Run.length {q n b xs r} (w : Run q n b xs r) : n = xs.length := by
  induction w with
  | nil => rfl
  | cons _ _ _ ih => exact congrArg (· + 1) ih

theorem Run.of_seq {q} : ∀ {n b xs r}, parseSeq n b = some (xs, r) → (q → ext32Seq n b = false) → Run q n b xs r
  | 0, _, _, _, h, _ => by cases h; exact .nil
  | n+1, _, _, _, h, hx => by
    obtain ⟨_, _, _, hp, hs, rfl⟩ := parseSeq_succ h
    exact .cons hp (fun hq => (ext32Seq_cons (hx hq) hp).1) (.of_seq hs fun hq => (ext32Seq_cons (hx hq) hp).2)

theorem Run.of_arr {q b xs r} (h : parse b = some (.arr xs, r)) (hx : q → hasExt32 b = false) :
    ∃ n r0, header b = some (.arr n, r0) ∧ Run q n r0 xs r :=
  have ⟨n, r0, hh, hs⟩ := seq_of_parse_arr h
  ⟨n, r0, hh, .of_seq hs fun hq => hasExt32_arr hh hs ▸ hx hq⟩

theorem Run.of_map {q b kvs r} (h : parse b = some (.map kvs, r)) (hx : q → hasExt32 b = false) :
    ∃ n r0, header b = some (.map n, r0) ∧ Run q (2 * n) r0 kvs r :=
  have ⟨n, r0, hh, hs⟩ := seq_of_parse_map h
  ⟨n, r0, hh, .of_seq hs fun hq => hasExt32_map hh hs ▸ hx hq⟩

end FV
