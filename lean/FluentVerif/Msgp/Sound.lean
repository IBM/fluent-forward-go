import FluentVerif.Msgp.Read
import FluentVerif.Msgpack.Enc
import FluentVerif.Msgpack.Seq
import FluentVerif.Proto.EventTimeLemmas
/-! The msgp read primitives against the specification parser.  A primitive that reads one kind of object
succeeds exactly on the encodings of such an object (`readX_iff`); of the others, a successful read consumed
exactly one spec object (`*_sound`) and an encoding the parser accepts is read as the object it denotes
(`*_of_parse`).  Nothing in the model of the library panics. -/
namespace FV

/-- reading from `b` leaves `r` after exactly one complete msgpack object -/
def Reads1 (b r : Bytes) : Prop := ∃ o, parse b = some (o, r)
/-- … after exactly `n` objects, one after another -/
def ReadsN (n : Nat) (b r : Bytes) : Prop := ∃ os, parseSeq n b = some (os, r)

theorem Reads1.lt {b r} (h : Reads1 b r) : r.length < b.length := by
  obtain ⟨o, ho⟩ := h; exact parse_shrinks ho

theorem ReadsN.zero (b : Bytes) : ReadsN 0 b b := ⟨.nil, rfl⟩

theorem ReadsN.cons {n b r r'} : Reads1 b r → ReadsN n r r' → ReadsN (n+1) b r'
  | ⟨_, h1⟩, ⟨_, h2⟩ => ⟨_, parseSeq_cons h1 h2⟩

theorem Reads1.ofArr {b n r0 r} (hh : header b = some (.arr n, r0)) : ReadsN n r0 r → Reads1 b r
  | ⟨_, hs⟩ => ⟨_, parse_arr_of_seq hh hs⟩

theorem Reads1.ofMap {b n r0 r} (hh : header b = some (.map n, r0)) : ReadsN (2*n) r0 r → Reads1 b r
  | ⟨_, hs⟩ => ⟨_, parse_map_of_seq hh hs⟩

theorem readArrayHeader_iff {b n r} : readArrayHeader b = .ok n r ↔ header b = some (.arr n, r) := by
  unfold readArrayHeader
  split
  · next hh => simp [hh]
  · next hne => exact ⟨nofun, fun h => (hne _ _ h).elim⟩

theorem readMapHeader_iff {b n r} : readMapHeader b = .ok n r ↔ header b = some (.map n, r) := by
  unfold readMapHeader
  split
  · next hh => simp [hh]
  · next hne => exact ⟨nofun, fun h => (hne _ _ h).elim⟩

/-- the branch `readString` and `readBytes` share, once `header` has found a blob of their kind -/
theorem readBlob_iff {b k n r0 s r} (hh : header b = some (.blob k n, r0)) :
    (if r0.length < n then (.err : Res Bytes) else .ok (r0.take n) (r0.drop n)) = .ok s r ↔
      Obj.At (blobObj k s) b r := by
  refine ⟨fun h => ?_, fun h => ?_⟩
  · obtain ⟨hl, h⟩ := Res.ok_of_ite_err h
    cases h; exact .blob hh hl
  · cases hh.symm.trans (Obj.At.blob_iff.1 h); simp

theorem readString_iff {b s r} : readString b = .ok s r ↔ parse b = some (.str s, r) := by
  rw [parse_iff]
  unfold readString
  split
  · next hh => exact readBlob_iff hh
  · next hne => exact ⟨nofun, fun h => (hne _ _ h).elim⟩

theorem readBytes_iff {b s r} : readBytes b = .ok s r ↔ parse b = some (.bin s, r) := by
  rw [parse_iff]
  unfold readBytes
  split
  · next hh => exact readBlob_iff hh
  · next hne => exact ⟨nofun, fun h => (hne _ _ h).elim⟩

/-- every integer encoding of a value in the int64 range is read as that value, and nothing else is -/
theorem readInt64_iff {b i r} : readInt64 b = .ok i r ↔ parse b = some (.int i, r) ∧ inInt64 i := by
  rw [parse_iff]
  refine ⟨fun h => ?_, fun ⟨h, hi⟩ => by simp [readInt64, show header b = _ from h, hi]⟩
  unfold readInt64 at h
  split at h
  · next hh =>
    split at h
    · next hi => cases h; exact ⟨hh, hi⟩
    · cases h
  · cases h

theorem readBool_iff {b v r} : readBool b = .ok v r ↔ parse b = some (.bool v, r) := by
  rw [parse_iff]
  unfold readBool
  split
  · next hh => simp [Obj.At, hh]
  · next hne => exact ⟨nofun, fun h => (hne _ _ h).elim⟩

theorem readNil_iff {b r} : readNil b = .ok () r ↔ parse b = some (.nil, r) := by
  rw [parse_nil_iff]
  unfold readNil
  split
  · next x t => by_cases hx : x = 0xc0 <;> simp [hx]
  · simp

theorem isNil_iff {b} : isNil b = true ↔ ∃ r, parse b = some (.nil, r) := by
  simp only [parse_nil_iff]
  cases b <;> simp [isNil]

theorem isNil_false_of_parse {b o r} (h : parse b = some (o, r)) (hne : o ≠ .nil) : isNil b = false :=
  Bool.eq_false_iff.2 fun hn =>
    have ⟨_, h'⟩ := isNil_iff.1 hn
    hne (by cases h.symm.trans h'; rfl)

theorem readMapKey_sound {p b k r} (h : readMapKey p b = .ok k r) : Reads1 b r := by
  unfold readMapKey at h
  split at h
  · next hh =>
    obtain ⟨hl, h⟩ := Res.ok_of_ite_err h
    obtain ⟨_, h⟩ := Res.ok_of_ite_err h
    cases h; exact ⟨_, parse_iff.2 (.blob hh hl)⟩
  · cases h

/-- what `ReadMapKey`/`ReadMapKeyZC` (str or bin, any length) makes of a complete object -/
theorem readMapKey_bytes_of_parse {b v r} (h : parse b = some (v, r)) :
    readMapKey .bytes b = (match v with | .str c => .ok c r | .bin c => .ok c r | _ => .err) := by
  have h := parse_iff.1 h
  cases v with
  | arr xs => obtain ⟨r0, hh, _⟩ := h; simp [readMapKey, hh]
  | map xs => obtain ⟨n, r0, hh, _⟩ := h; simp [readMapKey, hh]
  | _ => simp [readMapKey, show header b = _ from h]

/-- either key reader on a non-empty string key (the stream reader refuses the empty one) -/
theorem readMapKey_of_parse_str (p : Path) {b s r} (h : parse b = some (.str s, r)) (hne : s ≠ []) :
    readMapKey p b = .ok s r := by
  have hh : header b = _ := parse_iff.1 h
  simp [readMapKey, hh, hne]

theorem readEventTime_sound {b i r} (h : readEventTime b = .ok i r) : Reads1 b r := by
  unfold readEventTime at h
  split at h
  · next n t d hh =>
    split at h
    · next hc =>
      obtain ⟨_, hn, hl⟩ := hc
      subst hn
      split at h
      · cases h; exact ⟨_, parse_iff.2 (.ext hh hl)⟩
      · cases h
    · cases h
  · cases h

/-- any extension encoding (fixext8, ext8, ext16, ext32) of type 0 with an 8-byte payload is read
as the EventTime its payload denotes -/
theorem readEventTime_of_parse {b d r} (h : parse b = some (.ext 0 d, r)) (hd : d.length = 8) :
    ∃ i, decodeET d = some i ∧ readEventTime b = .ok i r := by
  have hh : header b = some (.ext d.length, 0 :: (d ++ r)) := parse_iff.1 h
  obtain ⟨i, hi⟩ := decodeET_of_length hd
  have ht : (d ++ r).take 8 = d := hd ▸ List.take_left ..
  have hr : (d ++ r).drop 8 = r := hd ▸ List.drop_left ..
  exact ⟨i, hi, by simp [readEventTime, hh, hd, ht, hr, hi]⟩

theorem skip_sound {b r} (h : skip b = .ok () r) : Reads1 b r := by
  unfold skip at h; split at h
  · next o' r' hp => cases h; exact ⟨o', hp⟩
  · cases h

theorem skipP_sound {p b r} (h : skipP p b = .ok () r) : Reads1 b r :=
  skip_sound (Res.ok_of_ite_err h).2

theorem skipP_eq_skip {p b} (h : p = .stream → hasExt32 b = false) : skipP p b = skip b := by
  unfold skipP
  split
  · next hc => have := h hc.1; rw [this] at hc; exact absurd hc.2 (by decide)
  · rfl

theorem skip_of_parse {b v r} (h : parse b = some (v, r)) : skip b = .ok () r := by
  simp [skip, h]

/-- the stream `Skip` passes over a complete value that holds no ext32 token -/
theorem skipP_of_parse {p b v r} (h : parse b = some (v, r)) (hx : p = .stream → hasExt32 b = false) :
    skipP p b = .ok () r := by
  rw [skipP_eq_skip hx]; exact skip_of_parse h

/-- Induction over a successful `ReadIntf`, with the cases of the decoder: three kinds of header that finish a
value, two that open a run of elements or of key-value pairs.  What holds of the bytes is said by header
equations in the form `Obj.At` has them. -/
theorem readIntf_induction {p : Path} {P : Nat → Bytes → Obj → Bytes → Prop}
    {Q K : Nat → Nat → Bytes → Objs → Bytes → Prop}
    (scalar : ∀ {f b s r}, header b = some (.scalar s, r) → P (f+1) b s.toObj r)
    (blob : ∀ {f b k s r}, header b = some (.blob k s.length, s ++ r) → P (f+1) b (blobObj k s) r)
    (ext : ∀ {f lead tl t d r}, header (lead :: tl) = some (.ext d.length, t :: (d ++ r)) →
      extOk p lead d.length t tl.length = true → P (f+1) (lead :: tl) (.ext t d) r)
    (arr : ∀ {f b n r0 xs r}, header b = some (.arr n, r0) → Q f n r0 xs r → P (f+1) b (.arr xs) r)
    (map : ∀ {f b n r0 xs r}, header b = some (.map n, r0) → K f n r0 xs r → P (f+1) b (.map xs) r)
    (nil : ∀ {f b}, Q (f+1) 0 b .nil b)
    (cons : ∀ {f n b x r1 xs r}, readIntfF p f b = .ok x r1 → P f b x r1 → Q f n r1 xs r →
      Q (f+1) (n+1) b (.cons x xs) r)
    (knil : ∀ {f b}, K (f+1) 0 b .nil b)
    (kcons : ∀ {f n b k s r1 v r2 kvs r}, header b = some (.blob k s.length, s ++ r1) → ¬ (p = .stream ∧ k = .bin) →
      readIntfF p f r1 = .ok v r2 → P f r1 v r2 → K f n r2 kvs r →
      K (f+1) (n+1) b (.cons (blobObj k s) (.cons v kvs)) r) :
    ∀ f, (∀ {b o r}, readIntfF p f b = .ok o r → P f b o r) ∧
      (∀ {n b os r}, readIntfN p f n b = .ok os r → Q f n b os r) ∧
      (∀ {n b os r}, readIntfKV p f n b = .ok os r → K f n b os r) := by
  intro f
  induction f with
  | zero => exact ⟨nofun, nofun, nofun⟩
  | succ f ih =>
    obtain ⟨ihF, ihN, ihK⟩ := ih
    refine ⟨fun {b o r} h => ?_, fun {n b os r} h => ?_, fun {n b os r} h => ?_⟩
    · unfold readIntfF at h
      split at h
      · cases h
      · split at h
        · cases h
        · next hh => cases h; exact scalar hh
        · next hh =>
          obtain ⟨hl, h⟩ := Res.ok_of_ite_err h
          cases h; exact blob (header_blob_take hh hl)
        · next hh =>
          split at h
          · cases h
          · obtain ⟨hl, h⟩ := Res.ok_of_ite_err h
            split at h
            · next hok =>
              cases h
              exact ext (Obj.At.ext hh hl) (by rwa [List.length_take_of_le (Nat.le_of_not_lt hl)])
            · cases h
        · next hh =>
          obtain ⟨xs, hx, rfl⟩ := Res.map_ok.1 h
          exact arr hh (ihN hx)
        · next hh =>
          obtain ⟨xs, hx, rfl⟩ := Res.map_ok.1 h
          exact map hh (ihK hx)
    · cases n with
      | zero => cases h; exact nil
      | succ n =>
        unfold readIntfN at h
        obtain ⟨x, r1, h1, h2⟩ := Res.bind_ok.1 h
        obtain ⟨xs, h3, rfl⟩ := Res.map_ok.1 h2
        exact cons h1 (ihF h1) (ihN h3)
    · cases n with
      | zero => cases h; exact knil
      | succ n =>
        unfold readIntfKV at h
        split at h
        · next hh =>
          obtain ⟨hl, h⟩ := Res.ok_of_ite_err h
          obtain ⟨hk, h⟩ := Res.ok_of_ite_err h
          obtain ⟨v, r1, h1, h2⟩ := Res.bind_ok.1 h
          obtain ⟨kvs, h3, rfl⟩ := Res.map_ok.1 h2
          exact kcons (header_blob_take hh hl) hk h1 (ihF h1) (ihK h3)
        · cases h

theorem readIntf_parses (p : Path) : ∀ f, (∀ {b o r}, readIntfF p f b = .ok o r → parse b = some (o, r)) ∧
    (∀ {n b os r}, readIntfN p f n b = .ok os r → parseSeq n b = some (os, r)) ∧
    (∀ {n b os r}, readIntfKV p f n b = .ok os r → parseSeq (2*n) b = some (os, r)) :=
  readIntf_induction
    (scalar := fun hh => parse_iff.2 (.scalar hh))
    (blob := fun hh => parse_iff.2 (Obj.At.blob_iff.2 hh))
    (ext := fun hh _ => parse_iff.2 hh)
    (arr := fun hh ih => parse_arr_of_seq hh ih)
    (map := fun hh ih => parse_map_of_seq hh ih)
    (nil := rfl)
    (cons := fun _ ih1 ih2 => parseSeq_cons ih1 ih2)
    (knil := rfl)
    (kcons := fun hh _ _ ih1 ih2 => parseSeq_cons (parse_iff.2 (Obj.At.blob_iff.2 hh)) (parseSeq_cons ih1 ih2))

theorem readIntfN_sound (p : Path) : ∀ (f n : Nat) (b : Bytes) (os r), readIntfN p f n b = .ok os r →
    parseSeq n b = some (os, r) :=
  fun f _ _ _ _ h => (readIntf_parses p f).2.1 h

theorem readIntfKV_sound (p : Path) : ∀ (f n : Nat) (b : Bytes) (os r), readIntfKV p f n b = .ok os r →
    parseSeq (2*n) b = some (os, r) :=
  fun f _ _ _ _ h => (readIntf_parses p f).2.2 h

theorem readIntf_sound {p b o r} (h : readIntf p b = .ok o r) : Reads1 b r :=
  ⟨o, (readIntf_parses p _).1 h⟩

def Res.NoPanic {α} (x : Res α) : Prop := ∀ w, x ≠ .panic w

theorem Res.NoPanic.bind {α β} {x : Res α} {f : α → Bytes → Res β} (hx : x.NoPanic)
    (hf : ∀ a b, (f a b).NoPanic) : (x.bind f).NoPanic := by
  intro w h
  rcases Res.bind_panic.1 h with h | ⟨a, b, _, h⟩
  · exact hx w h
  · exact hf a b w h

theorem Res.NoPanic.map {α β} {x : Res α} {f : α → β} (hx : x.NoPanic) : (x.map f).NoPanic := by
  intro w h; exact hx w (Res.map_panic.1 h)

theorem Res.NoPanic.ite {α} {c : Prop} [Decidable c] {x y : Res α} (hx : x.NoPanic) (hy : y.NoPanic) :
    (if c then x else y).NoPanic := by
  split
  · exact hx
  · exact hy

theorem Res.noPanic_ok {α} (a : α) (r : Bytes) : (Res.ok a r).NoPanic := by intro w h; cases h
theorem Res.noPanic_err {α} : (Res.err : Res α).NoPanic := by intro w h; cases h

/-- closes `(… primitive …).NoPanic` after the primitive has been unfolded: every branch is `.ok` or `.err`, so `h : … = .panic w` is
refuted by splitting until `cases` closes each branch -/
macro "no_panic_prim" : tactic =>
  `(tactic| (intro w h; repeat' (first | (cases h; done) | split at h)))

theorem readArrayHeader_noPanic (b) : (readArrayHeader b).NoPanic := by unfold readArrayHeader; no_panic_prim
theorem readMapHeader_noPanic (b) : (readMapHeader b).NoPanic := by unfold readMapHeader; no_panic_prim
theorem readString_noPanic (b) : (readString b).NoPanic := by unfold readString; no_panic_prim
theorem readBytes_noPanic (b) : (readBytes b).NoPanic := by unfold readBytes; no_panic_prim
theorem readInt64_noPanic (b) : (readInt64 b).NoPanic := by unfold readInt64; no_panic_prim
theorem readBool_noPanic (b) : (readBool b).NoPanic := by unfold readBool; no_panic_prim
theorem readNil_noPanic (b) : (readNil b).NoPanic := by unfold readNil; no_panic_prim
theorem readMapKey_noPanic (p b) : (readMapKey p b).NoPanic := by unfold readMapKey; no_panic_prim
theorem readEventTime_noPanic (b) : (readEventTime b).NoPanic := by unfold readEventTime; no_panic_prim
theorem skip_noPanic (b) : (skip b).NoPanic := by unfold skip; no_panic_prim
theorem skipP_noPanic (p b) : (skipP p b).NoPanic := .ite Res.noPanic_err (skip_noPanic b)

mutual
theorem readIntfF_noPanic (p : Path) : ∀ (f : Nat) (b : Bytes), (readIntfF p f b).NoPanic
  | 0, _ => Res.noPanic_err
  | f+1, b => by
    unfold readIntfF
    split
    · exact Res.noPanic_err
    · split
      · exact Res.noPanic_err
      · exact Res.noPanic_ok _ _
      · exact .ite Res.noPanic_err (Res.noPanic_ok _ _)
      · split
        · exact Res.noPanic_err
        · exact .ite Res.noPanic_err (.ite (Res.noPanic_ok _ _) Res.noPanic_err)
      · exact (readIntfN_noPanic p f _ _).map
      · exact (readIntfKV_noPanic p f _ _).map
theorem readIntfN_noPanic (p : Path) : ∀ (f n : Nat) (b : Bytes), (readIntfN p f n b).NoPanic
  | 0, _, _ => Res.noPanic_err
  | _+1, 0, _ => Res.noPanic_ok _ _
  | f+1, n+1, b => (readIntfF_noPanic p f b).bind fun _ r => (readIntfN_noPanic p f n r).map
theorem readIntfKV_noPanic (p : Path) : ∀ (f n : Nat) (b : Bytes), (readIntfKV p f n b).NoPanic
  | 0, _, _ => Res.noPanic_err
  | _+1, 0, _ => Res.noPanic_ok _ _
  | f+1, n+1, b => by
    unfold readIntfKV
    split
    · exact .ite Res.noPanic_err <| .ite Res.noPanic_err <|
        (readIntfF_noPanic p f _).bind fun _ r => (readIntfKV_noPanic p f n r).map
    · exact Res.noPanic_err
end

theorem readIntf_noPanic (p b) : (readIntf p b).NoPanic := readIntfF_noPanic p _ b

end FV
