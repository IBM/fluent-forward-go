import FluentVerif.Msgp.Append
import FluentVerif.Msgp.Sound
/-! msgp's write primitives against the specification: what `parse` reads back from the bytes each of them
writes (`parse_appendX`; `header_appendX` for the two that only open an array or a map and for
the EventTime extension), and from that what the read primitive of the same kind returns. -/
namespace FV

theorem header_posfix (n : Nat) (h : n ≤ 127) (r : Bytes) :
    header (UInt8.ofNat n :: r) = some (.scalar (.int n), r) := by
  have hb := UInt8.toNat_ofNat_of_lt' (n := n) (show n < 256 by omega)
  rw [header_imm (classify_posfix _ (by omega)), hb]

theorem header_negfix (i : Int) (h0 : ¬ 0 ≤ i) (h : -32 ≤ i) (r : Bytes) :
    header (UInt8.ofNat (256 + i).toNat :: r) = some (.scalar (.int i), r) := by
  have hb := UInt8.toNat_ofNat_of_lt' (n := (256 + i).toNat) (show _ < 256 by omega)
  rw [header_imm (classify_negfix _ (by omega)), hb, show (((256 + i).toNat : Nat) : Int) - 256 = i by omega]

theorem header_fixstr (n : Nat) (h : n ≤ 31) (r : Bytes) :
    header (UInt8.ofNat (0xa0 + n) :: r) = some (.blob .str n, r) := by
  have hb := UInt8.toNat_ofNat_of_lt' (n := 0xa0 + n) (show _ < 256 by omega)
  rw [header_imm (classify_fixstr _ (by omega) (by omega)), hb, Nat.add_sub_cancel_left]

theorem header_fixarr (n : Nat) (h : n ≤ 15) (r : Bytes) :
    header (UInt8.ofNat (0x90 + n) :: r) = some (.arr n, r) := by
  have hb := UInt8.toNat_ofNat_of_lt' (n := 0x90 + n) (show _ < 256 by omega)
  rw [header_imm (classify_fixarr _ (by omega) (by omega)), hb, Nat.add_sub_cancel_left]

theorem header_fixmap (n : Nat) (h : n ≤ 15) (r : Bytes) :
    header (UInt8.ofNat (0x80 + n) :: r) = some (.map n, r) := by
  have hb := UInt8.toNat_ofNat_of_lt' (n := 0x80 + n) (show _ < 256 by omega)
  rw [header_imm (classify_fixmap _ (by omega) (by omega)), hb, Nat.add_sub_cancel_left]

theorem header_intW {lead : UInt8} {w v : Nat} {r : Bytes} (hc : classify lead = .intW w) (hv : v < 256 ^ w) :
    header (lead :: (be w v ++ r)) = some (.scalar (.int (signed w v)), r) := by
  simp [header, hc, headerOf, needs, beVal_be w v hv]

/-- two's complement in `w` bytes: the field holds a non-negative `i` itself …  (`hF` is `1 ≤ w` in the form
`omega` can use: it ties the bound `256 ^ w` of `header_intW` to the sign threshold `2 ^ (8 * w - 1)`.  A caller
has a literal `w` and passes `rfl`.) -/
theorem header_int_nonneg {lead : UInt8} {w : Nat} {i : Int} {r : Bytes} (hc : classify lead = .intW w)
    (hF : 256 ^ w = 2 * 2 ^ (8 * w - 1)) (h0 : 0 ≤ i) (hi : i ≤ ((2 ^ (8 * w - 1) - 1 : Nat) : Int)) :
    header (lead :: (be w i.toNat ++ r)) = some (.scalar (.int i), r) := by
  have hp : 0 < 2 ^ (8 * w - 1) := Nat.pow_pos (by decide)
  have hlt : i.toNat < 2 ^ (8 * w - 1) := by omega
  rw [header_intW hc (by omega), signed, if_pos hlt, Int.toNat_of_nonneg h0]

/-- … and `2^(8w) + i` for a negative one -/
theorem header_int_neg {lead : UInt8} {w : Nat} {i : Int} {r : Bytes} (hc : classify lead = .intW w)
    (hF : 256 ^ w = 2 * 2 ^ (8 * w - 1)) (h0 : i < 0) (lo : -((2 ^ (8 * w - 1) : Nat) : Int) ≤ i) :
    header (lead :: (be w (((256 ^ w : Nat) : Int) + i).toNat ++ r)) = some (.scalar (.int i), r) := by
  have hv : ((((256 ^ w : Nat) : Int) + i).toNat : Int) = (256 ^ w : Nat) + i := Int.toNat_of_nonneg (by omega)
  rw [header_intW hc (by omega), signed, if_neg (by omega), hv, show 2 ^ (8 * w) = 256 ^ w from Nat.pow_mul 2 8 w]
  congr 4
  omega

theorem header_uintW {lead : UInt8} {w v : Nat} {r : Bytes} (hc : classify lead = .uintW w) (hv : v < 256 ^ w) :
    header (lead :: (be w v ++ r)) = some (.scalar (.int v), r) := by
  simp [header, hc, headerOf, needs, beVal_be w v hv]

theorem header_blobL {lead : UInt8} {k : BlobKind} {lw n : Nat} (hc : classify lead = .blobL k lw)
    (hn : n < 256 ^ lw) (s r : Bytes) :
    header (lead :: be lw n ++ s ++ r) = some (.blob k n, s ++ r) := by
  simp [header, hc, headerOf, needs, beVal_be lw n hn]

theorem header_arrL {lead : UInt8} {lw n : Nat} {r : Bytes} (hc : classify lead = .arrL lw) (hn : n < 256 ^ lw) :
    header (lead :: (be lw n ++ r)) = some (.arr n, r) := by
  simp [header, hc, headerOf, needs, beVal_be lw n hn]

theorem header_mapL {lead : UInt8} {lw n : Nat} {r : Bytes} (hc : classify lead = .mapL lw) (hn : n < 256 ^ lw) :
    header (lead :: (be lw n ++ r)) = some (.map n, r) := by
  simp [header, hc, headerOf, needs, beVal_be lw n hn]

/-! ### what the parser reads back from each write primitive

`Obj.At` of a scalar, a string or a binary is an equation about `header`, so `parse_iff.2` of that equation is
the parse.  Each primitive chooses a format by a chain of comparisons; `header_ite` takes the chain apart, one line per
format: the format's lemma, with the comparison that chose it as the bound it needs (`n ≤ 255` is
`n < 256 ^ 1`, `i ≤ 32767` is `i ≤ 2 ^ 15 - 1`, by evaluation). -/

theorem header_ite {c : Prop} [Decidable c] {a b r : Bytes} {x : Option (Hdr × Bytes)}
    (ha : c → header (a ++ r) = x) (hb : ¬ c → header (b ++ r) = x) : header ((if c then a else b) ++ r) = x := by
  by_cases h : c
  · rw [if_pos h]; exact ha h
  · rw [if_neg h]; exact hb h

theorem parse_appendNil (r : Bytes) : parse (appendNil ++ r) = some (.nil, r) :=
  parse_iff.2 (header_imm classify_c0 r)

theorem parse_appendBool (v : Bool) (r : Bytes) : parse (appendBool v ++ r) = some (.bool v, r) := by
  cases v
  · exact parse_iff.2 (header_imm classify_c2 r)
  · exact parse_iff.2 (header_imm classify_c3 r)

theorem parse_appendInt64 (i : Int) (h : inInt64 i) (r : Bytes) : parse (appendInt64 i ++ r) = some (.int i, r) :=
  parse_iff.2 <| header_ite
    (fun h0 =>
      header_ite (fun h1 => Int.toNat_of_nonneg h0 ▸ header_posfix i.toNat (by omega) r) fun _ =>
      header_ite (fun h2 => header_int_nonneg classify_d1 rfl h0 h2) fun _ =>
      header_ite (fun h3 => header_int_nonneg classify_d2 rfl h0 h3) fun _ =>
      header_int_nonneg classify_d3 rfl h0 h.2)
    fun h0 =>
      have hn := Int.not_le.1 h0
      header_ite (fun h1 => header_negfix i h0 h1 r) fun _ =>
      header_ite (fun h2 => header_int_neg classify_d0 rfl hn h2) fun _ =>
      header_ite (fun h3 => header_int_neg classify_d1 rfl hn h3) fun _ =>
      header_ite (fun h4 => header_int_neg classify_d2 rfl hn h4) fun _ =>
      header_int_neg classify_d3 rfl hn h.1

theorem parse_appendUint64 (u : Nat) (h : u < 18446744073709551616) (r : Bytes) :
    parse (appendUint64 u ++ r) = some (.int u, r) :=
  parse_iff.2 <| header_ite (fun h0 => header_posfix u h0 r) fun _ =>
  header_ite (fun h1 => header_uintW classify_cc (Nat.lt_succ_of_le h1)) fun _ =>
  header_ite (fun h2 => header_uintW classify_cd (Nat.lt_succ_of_le h2)) fun _ =>
  header_ite (fun h3 => header_uintW classify_ce (Nat.lt_succ_of_le h3)) fun _ =>
  header_uintW classify_cf h

theorem parse_appendFloat32 (bits : Nat) (h : bits < 4294967296) (r : Bytes) :
    parse (appendFloat32 bits ++ r) = some (.f32 bits, r) := by
  simp [parse_iff, Obj.At, appendFloat32, header, classify_ca, headerOf, needs, beVal_be 4 bits (by simpa using h)]

theorem parse_appendFloat64 (bits : Nat) (h : bits < 18446744073709551616) (r : Bytes) :
    parse (appendFloat64 bits ++ r) = some (.f64 bits, r) := by
  simp [parse_iff, Obj.At, appendFloat64, header, classify_cb, headerOf, needs, beVal_be 8 bits (by simpa using h)]

theorem parse_appendString (s r : Bytes) (h : s.length < 4294967296) :
    parse (appendString s ++ r) = some (.str s, r) :=
  parse_iff.2 <| header_ite (fun h0 => header_fixstr _ h0 _) fun _ =>
  header_ite (fun h1 => header_blobL classify_d9 (Nat.lt_succ_of_le h1) s r) fun _ =>
  header_ite (fun h2 => header_blobL classify_da (Nat.lt_succ_of_le h2) s r) fun _ =>
  header_blobL classify_db h s r

theorem parse_appendBytes (s r : Bytes) (h : s.length < 4294967296) :
    parse (appendBytes s ++ r) = some (.bin s, r) :=
  parse_iff.2 <| header_ite (fun h1 => header_blobL classify_c4 (Nat.lt_succ_of_le h1) s r) fun _ =>
  header_ite (fun h2 => header_blobL classify_c5 (Nat.lt_succ_of_le h2) s r) fun _ =>
  header_blobL classify_c6 h s r

theorem header_appendArrayHeader (n : Nat) (r : Bytes) (h : n < 4294967296) :
    header (appendArrayHeader n ++ r) = some (.arr n, r) :=
  header_ite (fun h0 => header_fixarr n h0 r) fun _ =>
  header_ite (fun h1 => header_arrL classify_dc (Nat.lt_succ_of_le h1)) fun _ =>
  header_arrL classify_dd h

theorem header_appendMapHeader (n : Nat) (r : Bytes) (h : n < 4294967296) :
    header (appendMapHeader n ++ r) = some (.map n, r) :=
  header_ite (fun h0 => header_fixmap n h0 r) fun _ =>
  header_ite (fun h1 => header_mapL classify_de (Nat.lt_succ_of_le h1)) fun _ =>
  header_mapL classify_df h

theorem header_appendEventTime (t : Instant) (r : Bytes) :
    header (appendEventTime t ++ r) = some (.ext 8, 0x00 :: (encodeET t ++ r)) := by
  simp [appendEventTime, header, classify_d7, headerOf]

theorem parse_appendEventTime (t : Instant) (r : Bytes) :
    parse (appendEventTime t ++ r) = some (.ext 0 (encodeET t), r) :=
  parse_iff.2 (by simpa [Obj.At, encodeET_length] using header_appendEventTime t r)

theorem appendInt64_sound (i : Int) (lo : -9223372036854775808 ≤ i) (hi : i ≤ 9223372036854775807) (r : Bytes) :
    parse (appendInt64 i ++ r) = some (.int i, r) :=
  parse_appendInt64 i ⟨lo, hi⟩ r

theorem readString_appendString (s r : Bytes) (h : s.length < 4294967296) :
    readString (appendString s ++ r) = .ok s r :=
  readString_iff.2 (parse_appendString s r h)
theorem readBytes_appendBytes (s r : Bytes) (h : s.length < 4294967296) :
    readBytes (appendBytes s ++ r) = .ok s r :=
  readBytes_iff.2 (parse_appendBytes s r h)
theorem readInt64_appendInt64 (i : Int) (h : inInt64 i) (r : Bytes) :
    readInt64 (appendInt64 i ++ r) = .ok i r :=
  readInt64_iff.2 ⟨parse_appendInt64 i h r, h⟩
theorem readBool_appendBool (v : Bool) (r : Bytes) : readBool (appendBool v ++ r) = .ok v r :=
  readBool_iff.2 (parse_appendBool v r)
theorem readMapKey_appendString (p : Path) (s r : Bytes) (h : s.length < 4294967296) (hne : s ≠ []) :
    readMapKey p (appendString s ++ r) = .ok s r :=
  readMapKey_of_parse_str p (parse_appendString s r h) hne
theorem readEventTime_append (t i : Instant) (r : Bytes) (h : decodeET (encodeET t) = some i) :
    readEventTime (appendEventTime t ++ r) = .ok i r := by
  simp [readEventTime, header_appendEventTime t r, encodeET_length, h]

end FV
