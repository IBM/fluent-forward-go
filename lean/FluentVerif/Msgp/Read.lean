import FluentVerif.Msgpack.Spec
import FluentVerif.Proto.EventTime
/-! Model of the tinylib/msgp v1.1.9 *read* primitives the repository calls, over the shared
`header` classification of `Msgpack/Spec`.  `Path` selects the slice functions (`Read…Bytes`) or
the `*msgp.Reader` methods wherever the two differ; every deviation from the plain reading of the
format table is written out.  (Modelled, not verified: validated through the repository's API by
the correspondence harness.) -/
namespace FV

/-- which of msgp's two decoder families is in use -/
inductive Path | bytes | stream
deriving DecidableEq, Repr

/-- outcome of anything that mirrors Go decoding code.  `panic` is a value, so "never panics" is a
theorem and not an artefact of totality. -/
inductive Res (α : Type) where
  | ok (a : α) (rest : Bytes)
  | err
  | panic (why : String)

namespace Res
def bind {α β} (x : Res α) (f : α → Bytes → Res β) : Res β :=
  match x with
  | .ok a r => f a r
  | .err => .err
  | .panic w => .panic w

def map {α β} (x : Res α) (f : α → β) : Res β :=
  match x with
  | .ok a r => .ok (f a) r
  | .err => .err
  | .panic w => .panic w

def isPanic {α} : Res α → Bool
  | .panic _ => true
  | _ => false

def rest? {α} : Res α → Option Bytes
  | .ok _ r => some r
  | _ => none

theorem bind_ok {α β} {x : Res α} {f : α → Bytes → Res β} {v r} :
    x.bind f = .ok v r ↔ ∃ a b, x = .ok a b ∧ f a b = .ok v r := by
  cases x with
  | ok a b =>
    simp only [bind, ok.injEq]
    constructor
    · intro h; exact ⟨a, b, ⟨rfl, rfl⟩, h⟩
    · rintro ⟨a', b', ⟨h1, h2⟩, h3⟩; subst h1; subst h2; exact h3
  | err => simp [bind]
  | panic w => simp [bind]

theorem bind_panic {α β} {x : Res α} {f : α → Bytes → Res β} {w} :
    x.bind f = .panic w ↔ x = .panic w ∨ ∃ a b, x = .ok a b ∧ f a b = .panic w := by
  cases x with
  | ok a b =>
    simp only [bind, ok.injEq]
    constructor
    · intro h; exact Or.inr ⟨a, b, ⟨rfl, rfl⟩, h⟩
    · rintro (h | ⟨a', b', ⟨h1, h2⟩, h3⟩)
      · cases h
      · subst h1; subst h2; exact h3
  | err => simp [bind]
  | panic w' => simp [bind]

theorem map_ok {α β} {x : Res α} {f : α → β} {v r} :
    x.map f = .ok v r ↔ ∃ a, x = .ok a r ∧ f a = v := by
  cases x with
  | ok a b =>
    simp only [map, ok.injEq]
    constructor
    · rintro ⟨h1, h2⟩; exact ⟨a, ⟨rfl, h2⟩, h1⟩
    · rintro ⟨a', ⟨h1, h2⟩, h3⟩; subst h1; exact ⟨h3, h2⟩
  | err => simp [map]
  | panic w => simp [map]

theorem map_panic {α β} {x : Res α} {f : α → β} {w} : x.map f = .panic w ↔ x = .panic w := by
  cases x <;> simp [map]

theorem ok_of_ite_err {α} {c : Prop} [Decidable c] {x : Res α} {v r} (h : (if c then .err else x) = .ok v r) :
    ¬ c ∧ x = .ok v r := by
  by_cases hc : c
  · rw [if_pos hc] at h; cases h
  · exact ⟨hc, (if_neg hc).symm.trans h⟩
end Res

def inInt64 (i : Int) : Prop := -9223372036854775808 ≤ i ∧ i ≤ 9223372036854775807
instance (i : Int) : Decidable (inInt64 i) := by unfold inInt64; infer_instance

/-! ### scalar and header primitives (both paths accept the same, map keys apart) -/

/-- `ReadArrayHeaderBytes` / `Reader.ReadArrayHeader` -/
def readArrayHeader (b : Bytes) : Res Nat :=
  match header b with
  | some (.arr n, r) => .ok n r
  | _ => .err

/-- `ReadMapHeaderBytes` / `Reader.ReadMapHeader` -/
def readMapHeader (b : Bytes) : Res Nat :=
  match header b with
  | some (.map n, r) => .ok n r
  | _ => .err

/-- `ReadStringBytes` / `Reader.ReadString` -/
def readString (b : Bytes) : Res Bytes :=
  match header b with
  | some (.blob .str n, r) => if r.length < n then .err else .ok (r.take n) (r.drop n)
  | _ => .err

/-- `ReadBytesBytes` / `Reader.ReadBytes` (bin only) -/
def readBytes (b : Bytes) : Res Bytes :=
  match header b with
  | some (.blob .bin n, r) => if r.length < n then .err else .ok (r.take n) (r.drop n)
  | _ => .err

/-- `ReadInt64Bytes` / `Reader.ReadInt64`; also `ReadIntBytes` on a 64-bit platform.  Every
integer format is accepted; an unsigned 64-bit value above `MaxInt64` is an overflow error. -/
def readInt64 (b : Bytes) : Res Int :=
  match header b with
  | some (.scalar (.int i), r) => if inInt64 i then .ok i r else .err
  | _ => .err

/-- `ReadBoolBytes` / `Reader.ReadBool` -/
def readBool (b : Bytes) : Res Bool :=
  match header b with
  | some (.scalar (.bool v), r) => .ok v r
  | _ => .err

/-- `IsNil` / `Reader.IsNil`; also `NextType(b) == NilType` -/
def isNil (b : Bytes) : Bool :=
  match b with
  | x :: _ => x == 0xc0
  | [] => false

/-- `ReadNilBytes` / `Reader.ReadNil` -/
def readNil (b : Bytes) : Res Unit :=
  match b with
  | x :: r => if x == 0xc0 then .ok () r else .err
  | [] => .err

/-- map keys in the *generated* decoders: `ReadMapKeyZC` (slice: str or bin, any length) vs
`Reader.ReadMapKeyPtr` (stream: str or bin, but a zero-length key is `ErrShortBytes`) -/
def readMapKey (p : Path) (b : Bytes) : Res Bytes :=
  match header b with
  | some (.blob _ n, r) =>
    if r.length < n then .err
    else if p = .stream ∧ n = 0 then .err
    else .ok (r.take n) (r.drop n)
  | _ => .err

/-- `ReadExtensionBytes(b, *EventTime)` / `Reader.ReadExtension`: any ext format whose type byte is
0 and whose payload is exactly eight bytes (`EventTime.UnmarshalBinary` rejects other lengths) -/
def readEventTime (b : Bytes) : Res Instant :=
  match header b with
  | some (.ext n, t :: d) =>
    if t = 0 ∧ n = 8 ∧ ¬ d.length < 8 then
      match decodeET (d.take 8) with
      | some i => .ok i (d.drop 8)
      | none => .err
    else .err
  | _ => .err

/-- `msgp.Skip(b)`: one complete value of any shape.  The stream `Reader.Skip` is `skipP .stream` below; it differs on ext32 values
(DESIGN §0.3, C11-ext32-skip; §4.2 for seekable readers) -/
def skip (b : Bytes) : Res Unit :=
  match parse b with
  | some (_, r) => .ok () r
  | none => .err

/-! ### the stream `Reader.Skip` and the ext32 format

msgp v1.1.9's stream `Skip` fails on every value written in the ext32 format (lead byte `0xc9`): its
fast path peeks five bytes and then asks `getSize` for the six-byte ext32 header, `ErrShortBytes`.
`hasExt32 b`: the first value of `b` contains an ext32 token at any depth (mirrors `parseF` / `parseN`;
lemmas in `Msgp/Ext32.lean`).  Exact whenever the skipped value is buffered in full, i.e. for inputs up to
the reader's 4 KiB buffer read from one chunk. -/

mutual
def ext32F : Nat → Bytes → Bool
  | 0, _ => false
  | f+1, b =>
    if b.head? = some 0xc9 then true else
    match header b with
    | some (.arr n, r) => ext32N f n r
    | some (.map n, r) => ext32N f (2*n) r
    | _ => false
def ext32N : Nat → Nat → Bytes → Bool
  | 0, _, _ => false
  | _+1, 0, _ => false
  | f+1, n+1, b =>
    ext32F f b || (match parseF f b with
      | some (_, r) => ext32N f n r
      | none => false)
end

/-- the first value of `b` holds an ext32 token -/
def hasExt32 (b : Bytes) : Bool := ext32F (2 * b.length + 2) b

/-- `Skip` on the given path: `msgp.Skip(bytes)` or `(*Reader).Skip()` -/
def skipP (p : Path) (b : Bytes) : Res Unit :=
  if p = .stream ∧ hasExt32 b = true then .err else skip b

/-! ### `ReadIntfBytes` / `Reader.ReadIntf`

The result is kept as the spec object that was read.  Deviations from "any object":
* map keys must be `str` (stream) or `str`/`bin` (slice);
* extension type 5 / 3 / 4 are msgp's time / complex64 / complex128 and are accepted only in
  msgp's own encoding (ext8 of 12 bytes / fixext8 / fixext16) — on the slice path only when at
  least one more byte follows the fixed part that `NextType` inspects (otherwise it is read as a
  raw extension); extension type 0 is the registered `EventTime` and needs an 8-byte payload. -/

def extOk (p : Path) (lead : UInt8) (n : Nat) (t : UInt8) (avail : Nat) : Bool :=
  -- `avail`: number of bytes after the lead byte
  let special : Bool :=
    match p with
    | .stream => true
    | .bytes =>
      -- NextType looks at the type byte only if len(b) > spec.size
      if lead = 0xc7 then decide (avail + 1 > 3)
      else if lead = 0xc8 then decide (avail + 1 > 4)
      else if lead = 0xc9 then decide (avail + 1 > 6)
      else decide (avail + 1 > 2 + n)          -- fixext: spec.size is the whole object
  if t = 5 ∧ special = true then decide (lead = 0xc7 ∧ n = 12)
  else if t = 3 ∧ special = true then decide (lead = 0xd7)
  else if t = 4 ∧ special = true then decide (lead = 0xd8)
  else if t = 0 then decide (n = 8)
  else true

mutual
def readIntfF (p : Path) : Nat → Bytes → Res Obj
  | 0, _ => .err
  | f+1, b =>
    match b with
    | [] => .err
    | lead :: tl =>
    match header b with
    | none => .err
    | some (.scalar o, r) => .ok o.toObj r
    | some (.blob k n, r) =>
      if r.length < n then .err
      else .ok (blobObj k (r.take n)) (r.drop n)
    | some (.ext n, r) =>
      match r with
      | [] => .err
      | t :: d =>
        if d.length < n then .err
        else if extOk p lead n t tl.length then .ok (.ext t (d.take n)) (d.drop n)
        else .err
    | some (.arr n, r) => (readIntfN p f n r).map Obj.arr
    | some (.map n, r) => (readIntfKV p f n r).map Obj.map
def readIntfN (p : Path) : Nat → Nat → Bytes → Res Objs
  | 0, _, _ => .err
  | _+1, 0, b => .ok .nil b
  | f+1, n+1, b =>
    (readIntfF p f b).bind fun x r => (readIntfN p f n r).map (Objs.cons x)
def readIntfKV (p : Path) : Nat → Nat → Bytes → Res Objs
  | 0, _, _ => .err
  | _+1, 0, b => .ok .nil b
  | f+1, n+1, b =>
    match header b with
    | some (.blob k m, r) =>
      if r.length < m then .err
      else if p = .stream ∧ k = .bin then .err
      else
        let key := blobObj k (r.take m)
        (readIntfF p f (r.drop m)).bind fun v r' =>
          (readIntfKV p f n r').map (fun kvs => Objs.cons key (Objs.cons v kvs))
    | _ => .err
end

def readIntf (p : Path) (b : Bytes) : Res Obj := readIntfF p (2 * b.length + 2) b

end FV
