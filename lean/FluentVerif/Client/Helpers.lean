import FluentVerif.Proto.Packed
/-! Model of the `Send*` helpers of `client.go` (and `ws_client.go`, which has the same bodies):
the constructor each one calls, then `Send`'s `Chunk()` when acks are required, then the encoder.
`now` is the clock reading the constructor takes; gzip is the abstract `Codec`. -/
namespace FV

inductive Helper where
  | message (tag : Bytes) (record : GoVal)
  | messageExt (tag : Bytes) (record : GoVal)
  | forward (tag : Bytes) (es : List (Instant × GoVal))
  | packed (tag : Bytes) (es : List (Instant × GoVal))
  | compressed (tag : Bytes) (es : List (Instant × GoVal))
  | packedBytes (tag b : Bytes)
  | compressedBytes (tag b : Bytes)

/-- `Chunk()` as `Send` calls it when `RequireAck`: options are created if absent and get the drawn
id unless they carry one already; every other option stays -/
def stampChunk (ack : Bool) (id : Bytes) (o : Option Options) : Option Options :=
  if ack then
    some (if (o.getD {}).chunk = [] then { (o.getD {}) with chunk := id } else o.getD {})
  else o

/-- the bytes the helper hands to the connection -/
def Helper.wire (cd : Codec) (pooled : Compressor) (now : Instant) (ack : Bool) (id : Bytes) : Helper → Option Bytes
  | .message tag r => Message.marshal tag now.sec r (stampChunk ack id none)
  | .messageExt tag r => MessageExt.marshal tag now r (stampChunk ack id none)
  | .forward tag es => Forward.marshal tag es (stampChunk ack id (some { size := some es.length }))
  | .packed tag es => (newPacked tag es).map fun m => Packed.marshal m.tag m.stream (stampChunk ack id m.options)
  | .compressed tag es =>
    (newCompressed cd pooled tag es).map fun m => Packed.marshal m.tag m.stream (stampChunk ack id m.options)
  | .packedBytes tag b => some (Packed.marshal tag b (stampChunk ack id none))
  | .compressedBytes tag b =>
    (newCompressedFromBytes cd pooled tag b).map fun m => Packed.marshal m.tag m.stream (stampChunk ack id m.options)

/-- the same with the compressor given as a bare function (used by the driver, which is handed the
compressed bytes the real run produced) -/
def Helper.wireG (gz : Bytes → Option Bytes) (now : Instant) (ack : Bool) (id : Bytes) : Helper → Option Bytes
  | .compressed tag es =>
    (marshalPacked es).bind fun s => (gz s).map fun z =>
      Packed.marshal tag z (stampChunk ack id (some { size := some es.length, compressed := vGzip }))
  | .compressedBytes tag b =>
    (gz b).map fun z => Packed.marshal tag z (stampChunk ack id (some { compressed := vGzip }))
  | .message tag r => Message.marshal tag now.sec r (stampChunk ack id none)
  | .messageExt tag r => MessageExt.marshal tag now r (stampChunk ack id none)
  | .forward tag es => Forward.marshal tag es (stampChunk ack id (some { size := some es.length }))
  | .packed tag es => (newPacked tag es).map fun m => Packed.marshal m.tag m.stream (stampChunk ack id m.options)
  | .packedBytes tag b => some (Packed.marshal tag b (stampChunk ack id none))

theorem Helper.wire_eq_wireG (cd : Codec) (pooled : Compressor) (now ack id) (h : Helper) :
    h.wire cd pooled now ack id = h.wireG (fun p => (pooled.reset.write cd p).map (·.buffer)) now ack id := by
  cases h with
  | compressed tag es =>
    simp only [Helper.wire, Helper.wireG, newCompressed]
    cases marshalPacked es <;> rfl
  | _ => rfl
end FV
