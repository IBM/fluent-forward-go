import FluentVerif.Client.Tcp
import FluentVerif.Proto.DecodeLemmas
/-! The invariant of the TCP client (`Inv`: replaying the event log leaves exactly the session's
connection open) with the lemma by which every operation keeps it (`Inv.extend`), and the normal
forms of `send`, `sendRaw` and `handshake` on which the properties C04, C05, C06, C09, C14 rest. -/
namespace FV.Tcp

/-- the connections that are open after a log: dialled and not yet closed; `none` if the log is not
well ordered (write or close on a connection that is not open, a connection dialled while it is open) -/
def replay : List Ev → List Nat → Option (List Nat)
  | [], o => some o
  | .dial id :: r, o => if id ∈ o then none else replay r (id :: o)
  | .dialFail :: r, o => replay r o
  | .write id _ _ :: r, o => if id ∈ o then replay r o else none
  | .deadline id :: r, o => if id ∈ o then replay r o else none
  | .close id :: r, o => if id ∈ o then replay r (o.erase id) else none

theorem replay_append (l1 l2 : List Ev) (o : List Nat) :
    replay (l1 ++ l2) o = (replay l1 o).bind (replay l2) := by
  induction l1 generalizing o with
  | nil => rfl
  | cons e r ih =>
    cases e <;> simp only [List.cons_append, replay, ih]
    all_goals split <;> rfl

/-- writes and deadlines on an open connection leave the set of open connections as it is -/
theorem replay_io {id : Nat} {o : List Nat} (ho : id ∈ o) : ∀ {evs : List Ev},
    (∀ ev ∈ evs, (∃ acc st, ev = .write id acc st) ∨ ev = .deadline id) → replay evs o = some o
  | [], _ => rfl
  | ev :: evs, h => by
    have ih := replay_io ho fun ev' h' => h ev' (List.mem_cons_of_mem _ h')
    rcases h ev List.mem_cons_self with ⟨acc, st, rfl⟩ | rfl <;> simpa [replay, ho] using ih

/-- the state invariant.  `opens`: the log is well ordered and exactly the session's connection is open; `sess`, `fresh`: the
session's id and every id dialled in the log are ones the factory has handed out, so the next one is fresh -/
structure Inv (s : St) : Prop where
  opens : replay s.log [] = some (match s.session with | some (id, _) => [id] | none => [])
  sess : ∀ id tp, s.session = some (id, tp) → id < s.conns.length
  fresh : ∀ id, Ev.dial id ∈ s.log → id < s.conns.length

theorem doWrite_prefix (b : Bytes) (f : WFault) : (doWrite b f).1 <+: b := by
  cases f with
  | none => exact List.prefix_refl b
  | failAfter n => exact List.take_prefix n b
  | short n =>
    simp only [doWrite]
    split
    · exact List.take_prefix n b
    · exact List.prefix_refl b

theorem doWrite_ok {b : Bytes} {f : WFault} (h : (doWrite b f).2 = .ok) : (doWrite b f).1 = b := by
  cases f with
  | none => rfl
  | failAfter n => simp [doWrite] at h
  | short n =>
    simp only [doWrite] at h ⊢
    split
    · next hlt => simp [hlt] at h
    · rfl

theorem not_mem_dial_of_fresh {s : St} (hi : Inv s) : s.conns.length ∉
    (match s.session with | some (id, _) => [id] | none => []) := by
  cases hs : s.session with
  | none => simp
  | some p =>
    obtain ⟨id, tp⟩ := p
    have := hi.sess id tp hs
    simp; omega

theorem inv_init : Inv {} := by
  refine ⟨rfl, ?_, ?_⟩
  · intro id tp h; cases h
  · intro id h; cases h

/-- `Inv` across a step that appends `evs` to the log: the replay of `evs` leads from the old set of
open connections to the new one, no connection is forgotten, the session's connection and the
connections dialled in `evs` are ones the factory handed out -/
theorem Inv.extend {s s' : St} {evs : List Ev} (hi : Inv s) (hl : s'.log = s.log ++ evs)
    (hr : replay evs (match s.session with | some (id, _) => [id] | none => []) =
      some (match s'.session with | some (id, _) => [id] | none => []))
    (hc : s.conns.length ≤ s'.conns.length) (hs : ∀ id tp, s'.session = some (id, tp) → id < s'.conns.length)
    (hd : ∀ id, .dial id ∈ evs → id < s'.conns.length) : Inv s' := by
  refine ⟨by rw [hl, replay_append, hi.opens]; exact hr, hs, fun id h => ?_⟩
  rw [hl] at h
  exact (List.mem_append.1 h).elim (fun h => Nat.lt_of_lt_of_le (hi.fresh id h) hc) (hd id)

theorem inv_connect (cfg : Cfg) (s : St) (d c : Bool) (hi : Inv s) (hn : s.session = none) :
    Inv (connect cfg s d c).1 := by
  unfold connect
  split
  · refine hi.extend (evs := [.dial s.conns.length]) rfl ?_ ?_ ?_ ?_
    · rw [hn]; simp [replay]
    · simp
    · intro id tp h; cases h; simp
    · intro id h; cases List.mem_singleton.1 h; simp
  · exact hi.extend (evs := [.dialFail]) rfl rfl (Nat.le_refl _) hi.sess fun id h => nomatch List.mem_singleton.1 h

theorem disconnect_session (s : St) : (disconnect s).1.session = none := by
  unfold disconnect
  rcases hs : s.session with _ | ⟨id, tp⟩
  · exact hs
  · rfl

theorem inv_disconnect (s : St) (hi : Inv s) : Inv (disconnect s).1 := by
  unfold disconnect
  rcases hs : s.session with _ | ⟨id, tp⟩
  · exact hi
  · refine hi.extend (evs := [.close id]) rfl ?_ (by simp) nofun fun id h => nomatch List.mem_singleton.1 h
    rw [hs]; simp [replay]

/-- `Inv` across a step that keeps `conns` and the session's connection and logs only writes and
deadlines on it: what `handshake`, `send` and `sendRaw` do -/
theorem Inv.io {s s' : St} {id : Nat} {tp tp' : Bool} {evs : List Ev} (hi : Inv s)
    (hs : s.session = some (id, tp)) (hs' : s'.session = some (id, tp')) (hc : s'.conns = s.conns)
    (hl : s'.log = s.log ++ evs) (hev : ∀ ev ∈ evs, (∃ acc st, ev = .write id acc st) ∨ ev = .deadline id) :
    Inv s' := by
  refine hi.extend hl ?_ (Nat.le_of_eq (congrArg _ hc.symm)) (fun id' tp'' h => ?_) fun id' h => ?_
  · rw [hs, hs']; exact replay_io List.mem_cons_self hev
  · rw [hs'] at h; cases h
    rw [hc]; exact hi.sess _ _ hs
  · rcases hev _ h with ⟨_, _, h'⟩ | h' <;> cases h'

/-! ### what `send`, `sendRaw` and `handshake` compute

Each has a case in which nothing happens and an error is returned, and one in which the session's
connection sees exactly one `Write`. -/

def St.emits (s : St) (evs : List Ev) : St := { s with log := s.log ++ evs }

/-- what one step appended to the log -/
def newEvents (s s' : St) : List Ev := s'.log.drop s.log.length

theorem newEvents_of_log {s s' : St} {evs : List Ev} (h : s'.log = s.log ++ evs) : newEvents s s' = evs := by
  rw [newEvents, h, List.drop_left]

theorem newEvents_self (s : St) : newEvents s s = [] := List.drop_length

theorem connect_log (cfg : Cfg) (s : St) (d c : Bool) :
    (connect cfg s d c).1.log = s.log ++ [if d then .dial s.conns.length else .dialFail] := by
  unfold connect; split <;> rfl

theorem disconnect_log (s : St) :
    (disconnect s).1.log = s.log ++ match s.session with | some (id, _) => [.close id] | none => [] := by
  unfold disconnect
  rcases s.session with _ | ⟨id, tp⟩
  · exact (List.append_nil _).symm
  · rfl

theorem St.session_cases (s : St) :
    (s.session = none ∨ ∃ id, s.session = some (id, false)) ∨ ∃ id, s.session = some (id, true) := by
  rcases s.session with _ | ⟨id, _ | _⟩
  · exact .inl (.inl rfl)
  · exact .inl (.inr ⟨id, rfl⟩)
  · exact .inr ⟨id, rfl⟩

/-- the peer's response starts with an ack map whose `ack` is `chunk` -/
def acked (chunk resp : Bytes) : Bool :=
  match Ack.unmarshal .stream {} resp with
  | .ok a _ => a.ack == chunk
  | _ => false

theorem acked_iff {chunk resp : Bytes} :
    acked chunk resp = true ↔ ∃ a r, Ack.unmarshal .stream {} resp = .ok a r ∧ a.ack = chunk := by
  unfold acked
  cases Ack.unmarshal .stream {} resp <;> simp

theorem Out.ite_ok {c : Prop} [Decidable c] : (if c then Out.ok else .err) = .ok ↔ c := by
  split <;> simp [*]

theorem send_idle {s : St} {cfg enc chunk f resp}
    (h : s.session = none ∨ ∃ id, s.session = some (id, false)) :
    send cfg s enc chunk f resp = (s, .err) := by
  unfold send
  rcases h with h | ⟨id, h⟩ <;> rw [h] <;> rfl

theorem send_none (cfg : Cfg) (s : St) (chunk f resp) : send cfg s none chunk f resp = (s, .err) := by
  unfold send
  rcases s.session with _ | ⟨id, _ | _⟩ <;> rfl

/-- `send` in transport phase: one `Write` of the whole encoding; the deadline and the ack test
only if acks are required and the write was complete -/
theorem send_transport {s : St} {id : Nat} {cfg : Cfg} {e chunk : Bytes} {f : WFault} {resp : Bytes}
    (hs : s.session = some (id, true)) :
    send cfg s (some e) chunk f resp =
      (s.emits (.write id (doWrite e f).1 (doWrite e f).2 ::
          if (doWrite e f).2 = .ok ∧ cfg.requireAck = true ∧ cfg.timeout = true then [.deadline id] else []),
       if (doWrite e f).2 = .ok ∧ (cfg.requireAck = true → acked chunk resp = true) then .ok else .err) := by
  unfold send acked
  rw [hs]
  by_cases hw : (doWrite e f).2 = .ok
  · cases hack : cfg.requireAck
    · simp [hw, St.emit, St.emits]
    · cases ht : cfg.timeout <;> rcases Ack.unmarshal .stream {} resp with ⟨a, _⟩ | _ | _ <;>
        simp [hw, St.emit, St.emits] <;> split <;> rfl
  · simp [hw, St.emit, St.emits]

theorem send_cases (cfg : Cfg) (s : St) (enc chunk f resp) :
    send cfg s enc chunk f resp = (s, .err) ∨ ∃ id e, s.session = some (id, true) ∧ enc = some e := by
  rcases s.session_cases with h | ⟨id, h⟩
  · exact .inl (send_idle h)
  · cases enc with
    | none => exact .inl (send_none ..)
    | some e => exact .inr ⟨id, e, h, rfl⟩

theorem sendRaw_idle {s : St} {b f} (h : s.session = none ∨ ∃ id, s.session = some (id, false)) :
    sendRaw s b f = (s, .err) := by
  unfold sendRaw
  rcases h with h | ⟨id, h⟩ <;> rw [h] <;> rfl

theorem sendRaw_transport {s : St} {id : Nat} {b : Bytes} {f : WFault} (hs : s.session = some (id, true)) :
    sendRaw s b f =
      (s.emits [.write id (doWrite b f).1 (doWrite b f).2], if (doWrite b f).2 = .ok then .ok else .err) := by
  unfold sendRaw
  rw [hs]; rfl

/-- the three ways a `handshake` ends: nothing written; the PING written (wholly or not) and an
error; the PING written wholly, the PONG accepted, transport phase -/
theorem handshake_cases (H : Bytes → Bytes) (cfg : Cfg) (s : St) (helo salt pong : Bytes) (f : WFault) :
    handshake H cfg s helo salt pong f = (s, .err) ∨
    ∃ id tp, s.session = some (id, tp) ∧
      ((∃ acc st, handshake H cfg s helo salt pong f = (s.emit (.write id acc st), .err)) ∨
       ∃ ho, handshake H cfg s helo salt pong f =
          ({ s.emit (.write id (pingMsg H cfg salt ho.nonce).marshal .ok) with session := some (id, true) }, .ok) ∧
        ∃ h rest0 p rest, Helo.unmarshal .stream {} helo = .ok h rest0 ∧ h.options = some ho ∧
          (doWrite (pingMsg H cfg salt ho.nonce).marshal f).2 = .ok ∧
          Pong.unmarshal .stream {} (rest0 ++ pong) = .ok p rest ∧ pongAccepted H cfg salt ho.nonce p = true) := by
  unfold handshake
  rcases s.session with _ | ⟨id, tp⟩
  · exact .inl rfl
  · dsimp only
    split
    · next h rest0 hh =>
      split
      · exact .inl rfl
      · next ho hho =>
        refine .inr ⟨id, tp, rfl, ?_⟩
        split
        · exact .inl ⟨_, _, rfl⟩
        · next hw =>
          have hw := Decidable.not_not.1 hw
          split
          · next p rest hp =>
            split
            · next hacc => exact .inr ⟨ho, by rw [doWrite_ok hw, hw], h, rest0, p, rest, hh, hho, hw, hp, hacc⟩
            · exact .inl ⟨_, _, rfl⟩
          · exact .inl ⟨_, _, rfl⟩
    · next w hh => exact absurd hh (Helo.unmarshal_reads.1 w)
    · exact .inl rfl

end FV.Tcp
