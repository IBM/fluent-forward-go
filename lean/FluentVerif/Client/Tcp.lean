import FluentVerif.Proto.Decode
import FluentVerif.Proto.Encode
/-! Sequential model of the TCP client (`fluent/client/client.go`): session lifecycle, handshake,
send / ack.  The peer and the network are *inputs* of each step (scripts), so theorems quantify
over every peer behaviour and every fault position.  `H` is the hex SHA-512 digest, uninterpreted. -/
namespace FV.Tcp

structure Cfg where
  sharedKey : Option Bytes := none
  requireAck : Bool := false
  timeout : Bool := true          -- `Timeout ≠ 0`
  hostname : Bytes := []

/-- what a `Write` call on the connection does -/
inductive WFault where
  | none                       -- accepts everything
  | failAfter (n : Nat)        -- accepts `n` bytes, then returns an error
  | short (n : Nat)            -- accepts `n` bytes and returns no error (a non-conforming writer)
deriving DecidableEq, Repr

inductive WStatus | ok | err | short
deriving DecidableEq, Repr

inductive Ev where
  | dial (id : Nat)
  | dialFail
  | write (id : Nat) (accepted : Bytes) (st : WStatus)
  | close (id : Nat)
  | deadline (id : Nat)
deriving DecidableEq, Repr

structure ConnInfo where
  closeErr : Bool
  closed : Nat := 0

structure St where
  session : Option (Nat × Bool) := none      -- (connection id, TransportPhase)
  conns : List ConnInfo := []                -- every connection the factory handed out; id = index
  log : List Ev := []                        -- events, oldest first

inductive Out | ok | err | bool (b : Bool) | panic
deriving DecidableEq, Repr

inductive Op where
  | connect (dialOk closeErr : Bool)
  | disconnect
  | reconnect (dialOk closeErr : Bool)
  | handshake (helo salt pong : Bytes) (fault : WFault)
  | send (enc : Option Bytes) (chunk : Bytes) (fault : WFault) (resp : Bytes)
  | sendRaw (b : Bytes) (fault : WFault)
  | transportPhase

/-- one `Write(b)` under a fault: what is accepted and how the call ends -/
def doWrite (b : Bytes) : WFault → Bytes × WStatus
  | .none => (b, .ok)
  | .failAfter n => (b.take n, .err)
  | .short n => if n < b.length then (b.take n, .short) else (b, .ok)

def St.emit (s : St) (e : Ev) : St := { s with log := s.log ++ [e] }

/-- `connect()` -/
def connect (cfg : Cfg) (s : St) (dialOk closeErr : Bool) : St × Out :=
  if dialOk then
    let id := s.conns.length
    ({ s with session := some (id, cfg.sharedKey.isNone), conns := s.conns ++ [{ closeErr := closeErr }],
              log := s.log ++ [.dial id] }, .ok)
  else (s.emit .dialFail, .err)

/-- `disconnect()`: close the session's connection (if any), forget the session -/
def disconnect (s : St) : St × Out :=
  match s.session with
  | none => (s, .ok)
  | some (id, _) =>
    let ce := (s.conns[id]?).map (·.closeErr) |>.getD false
    ({ s with session := none,
              conns := s.conns.modify id (fun c => { c with closed := c.closed + 1 }),
              log := s.log ++ [.close id] }, if ce then .err else .ok)

def pingMsg (H : Bytes → Bytes) (cfg : Cfg) (salt nonce : Bytes) : Ping :=
  { mtype := [0x50, 0x49, 0x4e, 0x47], hostname := cfg.hostname, salt := salt,
    digest := H (salt ++ cfg.hostname ++ nonce ++ cfg.sharedKey.getD []), username := [], password := [] }

/-- the acceptance test of the handshake, stated once (C05 refers to it) -/
def pongAccepted (H : Bytes → Bytes) (cfg : Cfg) (salt nonce : Bytes) (p : Pong) : Bool :=
  p.authResult && p.digest == H (salt ++ p.hostname ++ nonce ++ cfg.sharedKey.getD [])

/-! server-side helpers of `handshake.go`: `computeHexDigest`, `ValidatePingDigest`, `ValidatePongDigest`, `NewPong` -/

/-- `computeHexDigest(salt, hostname, nonce, key)` -/
def hexDigest (H : Bytes → Bytes) (salt hostname nonce key : Bytes) : Bytes := H (salt ++ hostname ++ nonce ++ key)

/-- `ValidatePingDigest(p, key, nonce)` -/
def validatePing (H : Bytes → Bytes) (p : Ping) (key nonce : Bytes) : Bool :=
  p.digest == hexDigest H p.salt p.hostname nonce key

/-- `ValidatePongDigest(p, key, nonce, salt)` -/
def validatePong (H : Bytes → Bytes) (p : Pong) (key nonce salt : Bytes) : Bool :=
  p.digest == hexDigest H salt p.hostname nonce key

/-- `NewPong(authResult, reason, hostname, key, helo, ping)` -/
def newPong (H : Bytes → Bytes) (auth : Bool) (reason hostname key nonce : Bytes) (ping : Ping) : Pong :=
  { mtype := [0x50, 0x4f, 0x4e, 0x47], authResult := auth, reason := reason, hostname := hostname,
    digest := hexDigest H ping.salt hostname nonce key }

/-- `Handshake()` -/
def handshake (H : Bytes → Bytes) (cfg : Cfg) (s : St) (helo salt pong : Bytes) (fault : WFault) : St × Out :=
  match s.session with
  | none => (s, .err)
  | some (id, tp) =>
    match Helo.unmarshal .stream {} helo with
    | .ok h rest0 =>
      match h.options with
      | none => (s, .err)
      | some ho =>
        let ping := (pingMsg H cfg salt ho.nonce).marshal
        let (acc, st) := doWrite ping fault
        let s1 := s.emit (.write id acc st)
        if st ≠ .ok then (s1, .err) else
        match Pong.unmarshal .stream {} (rest0 ++ pong) with
        | .ok p _ =>
          if pongAccepted H cfg salt ho.nonce p then ({ s1 with session := some (id, true) }, .ok)
          else (s1, .err)
        | _ => (s1, .err)
    | .panic _ => (s, .panic)
    | .err => (s, .err)

/-- `Send(e)`; `enc = none`: `Chunk()` or the encoder failed; `chunk`: the id `Chunk()` returned -/
def send (cfg : Cfg) (s : St) (enc : Option Bytes) (chunk : Bytes) (fault : WFault) (resp : Bytes) : St × Out :=
  match s.session with
  | none => (s, .err)
  | some (id, tp) =>
    if !tp then (s, .err) else
    match enc with
    | none => (s, .err)
    | some e =>
      let (acc, st) := doWrite e fault
      let s1 := s.emit (.write id acc st)
      if st ≠ .ok then (s1, .err)
      else if !cfg.requireAck then (s1, .ok)
      else
        let s2 := if cfg.timeout then s1.emit (.deadline id) else s1
        match Ack.unmarshal .stream {} resp with
        | .ok a _ => if a.ack = chunk then (s2, .ok) else (s2, .err)
        | _ => (s2, .err)

/-- `SendRaw(m)` -/
def sendRaw (s : St) (b : Bytes) (fault : WFault) : St × Out :=
  match s.session with
  | none => (s, .err)
  | some (id, tp) =>
    if !tp then (s, .err) else
    let (acc, st) := doWrite b fault
    let s1 := s.emit (.write id acc st)
    (s1, if st = .ok then .ok else .err)

def step (H : Bytes → Bytes) (cfg : Cfg) (s : St) : Op → St × Out
  | .connect d c => if s.session.isSome then (s, .err) else connect cfg s d c
  | .disconnect => disconnect s
  | .reconnect d c => connect cfg (disconnect s).1 d c
  | .handshake helo salt pong f => handshake H cfg s helo salt pong f
  | .send enc chunk f resp => send cfg s enc chunk f resp
  | .sendRaw b f => sendRaw s b f
  | .transportPhase => (s, .bool (match s.session with | some (_, tp) => tp | none => false))

def run (H : Bytes → Bytes) (cfg : Cfg) : St → List Op → St
  | s, [] => s
  | s, op :: ops => run H cfg (step H cfg s op).1 ops

end FV.Tcp
