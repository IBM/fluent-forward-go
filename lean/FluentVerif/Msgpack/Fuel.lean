import FluentVerif.Msgpack.Seq
/-! A linear-time `parseSeq` for compiled code.

`parseSeq` gives every element its own fuel `2·|rest| + 2`, i.e. it measures the rest of the input once per
element: quadratic on a stream of thousands of small entries.  `parseSeqFast` measures once and is proved equal,
so the compiler may use it wherever `parseSeq` is called (`@[csimp]`: a kernel-checked replacement, no trust added). -/
namespace FV

def parseSeqFast (n : Nat) (b : Bytes) : Option (Objs × Bytes) := parseN (2 * b.length + 3) n b

/- `parseN f n b` finds `os` exactly when `parseSeq n b` does and `os.fuel ≤ f` (`parseN_iff`); `At.need` bounds
`os.fuel` by `2·|b| + 1`.  So the fuel above, `parse`'s own `2·|b| + 2` and one for the step from `parseN` into
`parseF`, has two units to spare. -/
@[csimp] theorem parseSeq_csimp : @parseSeq = @parseSeqFast := by
  funext n b
  exact Option.ext fun _ => parseSeq_iff.trans
    ⟨fun h => parseN_iff.2 ⟨h, by have := At.need.2 h.2; omega⟩, fun h => (parseN_iff.1 h).1⟩

end FV
