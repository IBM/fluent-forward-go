import FluentVerif.Msgpack.Lemmas
/-! `parseSeq`, a run of `n` objects read one after another, is `Objs.At` with the length given (`parseSeq_iff`); the bridges
between a container and the run of its elements; `parse_inv`, a successful parse by the cases of its first header. -/
namespace FV

/-- read `n` objects one after another, each with `parse` (its own fuel) -/
def parseSeq : Nat → Bytes → Option (Objs × Bytes)
  | 0, b => some (.nil, b)
  | n+1, b => match parse b with
    | none => none
    | some (o, r) => match parseSeq n r with
      | none => none
      | some (os, r') => some (.cons o os, r')

theorem parseSeq_cons {b o r n os r'} (h1 : parse b = some (o, r)) (h2 : parseSeq n r = some (os, r')) :
    parseSeq (n+1) b = some (.cons o os, r') := by
  simp [parseSeq, h1, h2]

theorem parseSeq_succ {n b os r} (h : parseSeq (n+1) b = some (os, r)) :
    ∃ x r1 xs, parse b = some (x, r1) ∧ parseSeq n r1 = some (xs, r) ∧ os = .cons x xs := by
  unfold parseSeq at h
  split at h
  · cases h
  · next x r1 hp =>
    split at h
    · cases h
    · next xs r' hq => cases h; exact ⟨x, r1, xs, hp, hq, rfl⟩

theorem parseSeq_iff : ∀ {os : Objs} {n : Nat} {b r : Bytes},
    parseSeq n b = some (os, r) ↔ os.length = n ∧ Objs.At os b r
  | .nil, 0, b, r => by simp [parseSeq, Objs.At, Objs.length, eq_comm]
  | .cons x xs, n+1, b, r =>
    ⟨fun h => (by
      obtain ⟨_, r1, _, hp, hq, e⟩ := parseSeq_succ h
      cases e
      have ⟨hl, ha⟩ := parseSeq_iff.1 hq
      exact ⟨congrArg (· + 1) hl, r1, parse_iff.1 hp, ha⟩),
     fun ⟨hl, _, hp, hq⟩ => parseSeq_cons (parse_iff.2 hp) (parseSeq_iff.2 ⟨Nat.succ.inj hl, hq⟩)⟩
  | .nil, n+1, b, r =>
    ⟨fun h => (by obtain ⟨_, _, _, _, _, e⟩ := parseSeq_succ h; cases e), fun h => nomatch h.1⟩
  | .cons _ _, 0, _, _ => by simp [parseSeq, Objs.length]

/-- **bridge**: an array header followed by `n` sequentially readable objects is one array object -/
theorem parse_arr_of_seq {b n r0 os r} (hh : header b = some (.arr n, r0)) (hs : parseSeq n r0 = some (os, r)) :
    parse b = some (.arr os, r) := by
  obtain ⟨rfl, ha⟩ := parseSeq_iff.1 hs
  exact parse_iff.2 ⟨r0, hh, ha⟩

theorem parse_map_of_seq {b n r0 os r} (hh : header b = some (.map n, r0)) (hs : parseSeq (2*n) r0 = some (os, r)) :
    parse b = some (.map os, r) :=
  have ⟨hl, ha⟩ := parseSeq_iff.1 hs
  parse_iff.2 ⟨n, r0, hh, hl, ha⟩

theorem seq_of_parse_arr {b xs r} (h : parse b = some (.arr xs, r)) :
    ∃ n r0, header b = some (.arr n, r0) ∧ parseSeq n r0 = some (xs, r) :=
  have ⟨r0, hh, hs⟩ := parse_iff.1 h
  ⟨_, r0, hh, parseSeq_iff.2 ⟨rfl, hs⟩⟩

theorem seq_of_parse_map {b kvs r} (h : parse b = some (.map kvs, r)) :
    ∃ n r0, header b = some (.map n, r0) ∧ parseSeq (2*n) r0 = some (kvs, r) :=
  have ⟨n, r0, hh, hl, hs⟩ := parse_iff.1 h
  ⟨n, r0, hh, parseSeq_iff.2 ⟨hl, hs⟩⟩

/-- what a successful `parse b = some (o, r)` says about the first header of `b` -/
inductive ParseInv (b : Bytes) (o : Obj) (r : Bytes) : Prop
  | scalar (s : Scalar) (hh : header b = some (.scalar s, r)) (ho : o = s.toObj)
  | blob (k : BlobKind) (n : Nat) (r0 : Bytes) (hh : header b = some (.blob k n, r0)) (hl : ¬ r0.length < n)
      (ho : o = blobObj k (r0.take n)) (hr : r = r0.drop n)
  | ext (n : Nat) (t : UInt8) (d : Bytes) (hh : header b = some (.ext n, t :: d)) (hl : ¬ d.length < n)
      (ho : o = .ext t (d.take n)) (hr : r = d.drop n)
  | arr (n : Nat) (r0 : Bytes) (xs : Objs) (hh : header b = some (.arr n, r0)) (hs : parseSeq n r0 = some (xs, r))
      (ho : o = .arr xs)
  | map (n : Nat) (r0 : Bytes) (xs : Objs) (hh : header b = some (.map n, r0)) (hs : parseSeq (2*n) r0 = some (xs, r))
      (ho : o = .map xs)

theorem parse_inv {b o r} (h : parse b = some (o, r)) : ParseInv b o r :=
  (At.induction (P := fun o b r => ParseInv b o r) (Q := fun _ _ _ => True)
    (scalar := fun {_ s _} h => .scalar s h rfl)
    (blob := fun {_ k _ _} h => .blob k _ _ h (by simp) (by simp) (by simp))
    (ext := fun {_ t _ _} h => .ext _ t _ h (by simp) (by simp) (by simp))
    (arr := fun hh hs _ => .arr _ _ _ hh (parseSeq_iff.2 ⟨rfl, hs⟩) rfl)
    (map := fun hh hl hs _ => .map _ _ _ hh (parseSeq_iff.2 ⟨hl, hs⟩) rfl)
    (nil := trivial) (cons := fun _ _ _ _ => trivial)).1 (parse_iff.1 h)

/-- nested containers do parse with the chosen fuel -/
example : (parse [0x91, 0x91, 0x91, 0x01]).isSome = true := by rfl
example : (parse [0x92, 0x91, 0x01, 0x81, 0xa1, 0x61, 0x90]).isSome = true := by rfl

end FV
