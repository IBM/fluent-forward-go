import FluentVerif.Msgpack.Lemmas
/-! Facts about the format table by lead byte: `classify` on the ranges (from bounds on `toNat`) and on the fixed bytes (by
kernel evaluation), `header_imm`, and that an encoded nil is exactly the byte `0xc0`.  Then the models of msgp's `AppendInt64` /
`AppendString` / `AppendArrayHeader`; what the parser reads back from them is in `Msgp/AppendSound.lean`. -/
namespace FV

deriving instance DecidableEq for Scalar
deriving instance DecidableEq for Hdr
deriving instance DecidableEq for Lead

theorem classify_posfix (b : UInt8) (h : b.toNat < 0x80) : classify b = .imm (.scalar (.int b.toNat)) := by
  unfold classify; rw [if_pos (UInt8.lt_iff_toNat_lt.2 h)]

theorem classify_fixmap (b : UInt8) (h1 : 0x80 ≤ b.toNat) (h2 : b.toNat < 0x90) :
    classify b = .imm (.map (b.toNat - 0x80)) := by
  unfold classify
  rw [if_neg (by rw [UInt8.lt_iff_toNat_lt]; simp; omega), if_pos (by rw [UInt8.lt_iff_toNat_lt]; simp; omega)]

theorem classify_fixarr (b : UInt8) (h1 : 0x90 ≤ b.toNat) (h2 : b.toNat < 0xa0) :
    classify b = .imm (.arr (b.toNat - 0x90)) := by
  unfold classify
  rw [if_neg (by rw [UInt8.lt_iff_toNat_lt]; simp; omega), if_neg (by rw [UInt8.lt_iff_toNat_lt]; simp; omega),
    if_pos (by rw [UInt8.lt_iff_toNat_lt]; simp; omega)]

theorem classify_fixstr (b : UInt8) (h1 : 0xa0 ≤ b.toNat) (h2 : b.toNat < 0xc0) :
    classify b = .imm (.blob .str (b.toNat - 0xa0)) := by
  unfold classify
  rw [if_neg (by rw [UInt8.lt_iff_toNat_lt]; simp; omega), if_neg (by rw [UInt8.lt_iff_toNat_lt]; simp; omega),
    if_neg (by rw [UInt8.lt_iff_toNat_lt]; simp; omega), if_pos (by rw [UInt8.lt_iff_toNat_lt]; simp; omega)]

theorem classify_negfix (b : UInt8) (h : 0xe0 ≤ b.toNat) :
    classify b = .imm (.scalar (.int ((b.toNat : Int) - 256))) := by
  have hne : ∀ c : UInt8, c.toNat < 0xe0 → (b = c) = False := fun c hc => eq_false (by rintro rfl; omega)
  have hlt : ∀ c : UInt8, c.toNat ≤ 0xe0 → (b < c) = False := fun c hc =>
    eq_false (by rw [UInt8.lt_iff_toNat_lt]; omega)
  simp (disch := decide) only [classify, hne, hlt, if_false]

/-! fixed lead bytes: decided in the kernel (`rfl` walks the chain of comparisons in the elaborator, five times
as dear) -/

theorem classify_c0 : classify 0xc0 = .imm (.scalar .nil) := by decide +kernel
theorem classify_c2 : classify 0xc2 = .imm (.scalar (.bool false)) := by decide +kernel
theorem classify_c3 : classify 0xc3 = .imm (.scalar (.bool true)) := by decide +kernel
theorem classify_d0 : classify 0xd0 = .intW 1 := by decide +kernel
theorem classify_d1 : classify 0xd1 = .intW 2 := by decide +kernel
theorem classify_d2 : classify 0xd2 = .intW 4 := by decide +kernel
theorem classify_d3 : classify 0xd3 = .intW 8 := by decide +kernel
theorem classify_d9 : classify 0xd9 = .blobL .str 1 := by decide +kernel
theorem classify_da : classify 0xda = .blobL .str 2 := by decide +kernel
theorem classify_db : classify 0xdb = .blobL .str 4 := by decide +kernel
theorem classify_dc : classify 0xdc = .arrL 2 := by decide +kernel
theorem classify_dd : classify 0xdd = .arrL 4 := by decide +kernel
theorem classify_c4 : classify 0xc4 = .blobL .bin 1 := by decide +kernel
theorem classify_c5 : classify 0xc5 = .blobL .bin 2 := by decide +kernel
theorem classify_c6 : classify 0xc6 = .blobL .bin 4 := by decide +kernel
theorem classify_ca : classify 0xca = .f32 := by decide +kernel
theorem classify_cb : classify 0xcb = .f64 := by decide +kernel
theorem classify_cc : classify 0xcc = .uintW 1 := by decide +kernel
theorem classify_cd : classify 0xcd = .uintW 2 := by decide +kernel
theorem classify_ce : classify 0xce = .uintW 4 := by decide +kernel
theorem classify_cf : classify 0xcf = .uintW 8 := by decide +kernel
theorem classify_d7 : classify 0xd7 = .extFix 8 := by decide +kernel
theorem classify_de : classify 0xde = .mapL 2 := by decide +kernel
theorem classify_df : classify 0xdf = .mapL 4 := by decide +kernel

theorem header_imm {x : UInt8} {h : Hdr} (hc : classify x = .imm h) (r : Bytes) : header (x :: r) = some (h, r) := by
  rw [header, hc]; rfl

/-! the lead byte `0xc0` and nil (all 256 lead bytes, decided in the kernel) -/

theorem classify_imm_nil_all : ∀ n : Fin 256, classify (UInt8.ofNat n.val) = .imm (.scalar .nil) → n.val = 192 := by
  decide +kernel

theorem classify_imm_nil {x : UInt8} (hc : classify x = .imm (.scalar .nil)) : x = 0xc0 :=
  UInt8.toNat_inj.1 (classify_imm_nil_all ⟨x.toNat, x.toNat_lt⟩ (by rwa [UInt8.ofNat_toNat]))

theorem header_nil_lead {x : UInt8} {t r : Bytes} (h : header (x :: t) = some (.scalar .nil, r)) : x = 0xc0 := by
  simp only [header] at h
  generalize hc : classify x = l at h
  cases l with
  | imm _ => cases h; exact classify_imm_nil hc
  | invalid | extFix _ => cases h
  | _ => simp only [headerOf] at h; cases (needs_some h).2.1

theorem parse_nil_iff {b r} : parse b = some (.nil, r) ↔ b = 0xc0 :: r := by
  rw [parse_iff]
  refine ⟨fun h => ?_, fun h => h ▸ header_imm classify_c0 r⟩
  have hh : header b = some (.scalar .nil, r) := h
  obtain ⟨_, _, rfl⟩ := header_cons hh
  cases header_nil_lead hh
  rw [header_imm classify_c0] at hh
  cases hh; rfl

/-! ### msgp's encoders (model of AppendInt64 / AppendString / AppendArrayHeader) -/

def appendInt64 (i : Int) : Bytes :=
  if 0 ≤ i then
    if i ≤ 127 then [UInt8.ofNat i.toNat]
    else if i ≤ 32767 then 0xd1 :: be 2 i.toNat
    else if i ≤ 2147483647 then 0xd2 :: be 4 i.toNat
    else 0xd3 :: be 8 i.toNat
  else
    if -32 ≤ i then [UInt8.ofNat (256 + i).toNat]
    else if -128 ≤ i then 0xd0 :: be 1 (256 + i).toNat
    else if -32768 ≤ i then 0xd1 :: be 2 (65536 + i).toNat
    else if -2147483648 ≤ i then 0xd2 :: be 4 (4294967296 + i).toNat
    else 0xd3 :: be 8 (18446744073709551616 + i).toNat

def appendString (s : Bytes) : Bytes :=
  let n := s.length
  if n ≤ 31 then UInt8.ofNat (0xa0 + n) :: s
  else if n ≤ 255 then 0xd9 :: be 1 n ++ s
  else if n ≤ 65535 then 0xda :: be 2 n ++ s
  else 0xdb :: be 4 n ++ s

def appendArrayHeader (n : Nat) : Bytes :=
  if n ≤ 15 then [UInt8.ofNat (0x90 + n)]
  else if n ≤ 65535 then 0xdc :: be 2 n
  else 0xdd :: be 4 n

theorem take_be_append (k n : Nat) (r : Bytes) : (be k n ++ r).take k = be k n := by
  simp
theorem drop_be_append (k n : Nat) (r : Bytes) : (be k n ++ r).drop k = r := by
  simp

end FV
