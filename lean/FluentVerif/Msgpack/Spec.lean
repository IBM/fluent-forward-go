import FluentVerif.Bytes
/-! msgpack specification parser, full format table, `classify`/`headerOf` factoring -/
namespace FV

inductive BlobKind | str | bin
deriving DecidableEq, Repr

mutual
inductive Obj where
  | nil : Obj
  | bool (b : Bool)
  | int (i : Int)
  | f32 (bits : Nat)
  | f64 (bits : Nat)
  | str (s : Bytes)
  | bin (s : Bytes)
  | ext (ty : UInt8) (data : Bytes)
  | arr (xs : Objs)
  | map (kvs : Objs)          -- k₁ v₁ k₂ v₂ …
inductive Objs where
  | nil : Objs
  | cons : Obj → Objs → Objs
end

/-- the objects a header alone determines -/
inductive Scalar where
  | nil : Scalar
  | bool (b : Bool)
  | int (i : Int)
  | f32 (bits : Nat)
  | f64 (bits : Nat)

def Scalar.toObj : Scalar → Obj
  | .nil => .nil
  | .bool b => .bool b
  | .int i => .int i
  | .f32 b => .f32 b
  | .f64 b => .f64 b

inductive Hdr where
  | scalar (o : Scalar)
  | blob (k : BlobKind) (n : Nat)
  | ext (n : Nat)
  | arr (n : Nat)
  | map (n : Nat)

inductive Lead where
  | imm (h : Hdr)
  | uintW (w : Nat)
  | intW (w : Nat)
  | f32 | f64
  | blobL (k : BlobKind) (lw : Nat)
  | extFix (n : Nat)
  | extL (lw : Nat)
  | arrL (lw : Nat)
  | mapL (lw : Nat)
  | invalid

/-- two's complement reading of a `w`-byte big-endian value -/
def signed (w v : Nat) : Int := if v < 2 ^ (8 * w - 1) then (v : Int) else (v : Int) - (2 ^ (8 * w) : Nat)

/-- **the msgpack format table** -/
def classify (b : UInt8) : Lead :=
  if b < 0x80 then .imm (.scalar (.int b.toNat))
  else if b < 0x90 then .imm (.map (b.toNat - 0x80))
  else if b < 0xa0 then .imm (.arr (b.toNat - 0x90))
  else if b < 0xc0 then .imm (.blob .str (b.toNat - 0xa0))
  else if b = 0xc0 then .imm (.scalar .nil)
  else if b = 0xc1 then .invalid
  else if b = 0xc2 then .imm (.scalar (.bool false))
  else if b = 0xc3 then .imm (.scalar (.bool true))
  else if b = 0xc4 then .blobL .bin 1
  else if b = 0xc5 then .blobL .bin 2
  else if b = 0xc6 then .blobL .bin 4
  else if b = 0xc7 then .extL 1
  else if b = 0xc8 then .extL 2
  else if b = 0xc9 then .extL 4
  else if b = 0xca then .f32
  else if b = 0xcb then .f64
  else if b = 0xcc then .uintW 1
  else if b = 0xcd then .uintW 2
  else if b = 0xce then .uintW 4
  else if b = 0xcf then .uintW 8
  else if b = 0xd0 then .intW 1
  else if b = 0xd1 then .intW 2
  else if b = 0xd2 then .intW 4
  else if b = 0xd3 then .intW 8
  else if b = 0xd4 then .extFix 1
  else if b = 0xd5 then .extFix 2
  else if b = 0xd6 then .extFix 4
  else if b = 0xd7 then .extFix 8
  else if b = 0xd8 then .extFix 16
  else if b = 0xd9 then .blobL .str 1
  else if b = 0xda then .blobL .str 2
  else if b = 0xdb then .blobL .str 4
  else if b = 0xdc then .arrL 2
  else if b = 0xdd then .arrL 4
  else if b = 0xde then .mapL 2
  else if b = 0xdf then .mapL 4
  else .imm (.scalar (.int ((b.toNat : Int) - 256)))

def needs (w : Nat) (r : Bytes) (k : Bytes → Hdr) : Option (Hdr × Bytes) :=
  if r.length < w then none else some (k (r.take w), r.drop w)

/-! ### linear-time replacements for compiled code, proved equal

`r.length < n` measures the *whole* rest of the input, and the parser asks it at every multi-byte
header, string, binary and extension: quadratic on inputs with thousands of tokens.  `lenLt r n` walks
at most `n` cells.  `needsFast`, `parseFFast`, `parseNFast` repeat the definitions with that test and
are proved equal, so the compiler may substitute them (`@[csimp]`: the kernel checks the equation,
nothing is trusted beyond it; the logic, and every theorem, keeps the original definitions). -/

/-- `r.length < n`, looking at no more than `n` cells of `r` -/
def lenLt : Bytes → Nat → Bool
  | _, 0 => false
  | [], _+1 => true
  | _ :: r, n+1 => lenLt r n

theorem lenLt_eq : ∀ (r : Bytes) (n : Nat), lenLt r n = decide (r.length < n)
  | _, 0 => by simp [lenLt]
  | [], n+1 => by simp [lenLt]
  | _ :: r, n+1 => by simp [lenLt, lenLt_eq r n]

def needsFast (w : Nat) (r : Bytes) (k : Bytes → Hdr) : Option (Hdr × Bytes) :=
  if lenLt r w then none else some (k (r.take w), r.drop w)

@[csimp] theorem needs_csimp : @needs = @needsFast := by
  funext w r k
  simp only [needs, needsFast, lenLt_eq, decide_eq_true_eq]

def headerOf (l : Lead) (r : Bytes) : Option (Hdr × Bytes) :=
  match l with
  | .imm h => some (h, r)
  | .uintW w => needs w r (fun p => .scalar (.int (beVal p)))
  | .intW w => needs w r (fun p => .scalar (.int (signed w (beVal p))))
  | .f32 => needs 4 r (fun p => .scalar (.f32 (beVal p)))
  | .f64 => needs 8 r (fun p => .scalar (.f64 (beVal p)))
  | .blobL k lw => needs lw r (fun p => .blob k (beVal p))
  | .extFix n => some (.ext n, r)
  | .extL lw => needs lw r (fun p => .ext (beVal p))
  | .arrL lw => needs lw r (fun p => .arr (beVal p))
  | .mapL lw => needs lw r (fun p => .map (beVal p))
  | .invalid => none

def header : Bytes → Option (Hdr × Bytes)
  | [] => none
  | b :: r => headerOf (classify b) r

def blobObj : BlobKind → Bytes → Obj
  | .str, s => .str s
  | .bin, s => .bin s

mutual
def parseF : Nat → Bytes → Option (Obj × Bytes)
  | 0, _ => none
  | f+1, b =>
    match header b with
    | none => none
    | some (.scalar o, r) => some (o.toObj, r)
    | some (.blob k n, r) =>
      if r.length < n then none
      else some (blobObj k (r.take n), r.drop n)
    | some (.ext n, r) =>
      match r with
      | [] => none
      | t :: d => if d.length < n then none else some (.ext t (d.take n), d.drop n)
    | some (.arr n, r) => match parseN f n r with
        | some (xs, r') => some (.arr xs, r')
        | none => none
    | some (.map n, r) => match parseN f (2*n) r with
        | some (xs, r') => some (.map xs, r')
        | none => none
def parseN : Nat → Nat → Bytes → Option (Objs × Bytes)
  | 0, _, _ => none
  | _+1, 0, b => some (.nil, b)
  | f+1, n+1, b => match parseF f b with
    | none => none
    | some (x, r) => match parseN f n r with
      | none => none
      | some (xs, r') => some (.cons x xs, r')
end

mutual
def parseFFast : Nat → Bytes → Option (Obj × Bytes)
  | 0, _ => none
  | f+1, b =>
    match header b with
    | none => none
    | some (.scalar o, r) => some (o.toObj, r)
    | some (.blob k n, r) =>
      if lenLt r n then none
      else some (blobObj k (r.take n), r.drop n)
    | some (.ext n, r) =>
      match r with
      | [] => none
      | t :: d => if lenLt d n then none else some (.ext t (d.take n), d.drop n)
    | some (.arr n, r) => match parseNFast f n r with
        | some (xs, r') => some (.arr xs, r')
        | none => none
    | some (.map n, r) => match parseNFast f (2*n) r with
        | some (xs, r') => some (.map xs, r')
        | none => none
def parseNFast : Nat → Nat → Bytes → Option (Objs × Bytes)
  | 0, _, _ => none
  | _+1, 0, b => some (.nil, b)
  | f+1, n+1, b => match parseFFast f b with
    | none => none
    | some (x, r) => match parseNFast f n r with
      | none => none
      | some (xs, r') => some (.cons x xs, r')
end

mutual
theorem parseF_eq_fast : ∀ (f : Nat) (b : Bytes), parseF f b = parseFFast f b
  | 0, _ => rfl
  | f+1, _ => by simp only [parseF, parseFFast, lenLt_eq, decide_eq_true_eq, parseN_eq_fast f]
theorem parseN_eq_fast : ∀ (f n : Nat) (b : Bytes), parseN f n b = parseNFast f n b
  | 0, _, _ => rfl
  | _+1, 0, _ => rfl
  | f+1, _+1, _ => by simp only [parseN, parseNFast, parseF_eq_fast f, parseN_eq_fast f]
end

@[csimp] theorem parseF_csimp : @parseF = @parseFFast := by
  funext f b; exact parseF_eq_fast f b
@[csimp] theorem parseN_csimp : @parseN = @parseNFast := by
  funext f n b; exact parseN_eq_fast f n b

/-- fuel: each nesting level costs two units (`parseF → parseN → parseF`) and each sibling one,
while consuming at least one byte, so `2 * length + 2` always suffices -/
def parse (b : Bytes) : Option (Obj × Bytes) := parseF (2 * b.length + 2) b

theorem needs_some {w r k h r'} (hh : needs w r k = some (h, r')) :
    w ≤ r.length ∧ h = k (r.take w) ∧ r' = r.drop w := by
  unfold needs at hh
  split at hh
  · cases hh
  · next hl => cases hh; exact ⟨Nat.le_of_not_lt hl, rfl, rfl⟩

theorem needs_append {w r k h r'} (x : Bytes) (hh : needs w r k = some (h, r')) :
    needs w (r ++ x) k = some (h, r' ++ x) := by
  obtain ⟨hle, rfl, rfl⟩ := needs_some hh
  rw [needs, if_neg (by simp; omega), List.take_append_of_le_length hle, List.drop_append_of_le_length hle]

theorem needs_shrinks {w r k h r'} (hh : needs w r k = some (h, r')) : r'.length ≤ r.length := by
  obtain ⟨_, _, rfl⟩ := needs_some hh
  simp

/-! a lead byte is a header by itself (`imm`, `extFix`), is followed by a field (`needs`), or is invalid -/

theorem headerOf_append {l r h r'} (x : Bytes) (hh : headerOf l r = some (h, r')) :
    headerOf l (r ++ x) = some (h, r' ++ x) := by
  cases l with
  | imm _ | extFix _ => cases hh; rfl
  | invalid => cases hh
  | _ => simp only [headerOf] at hh ⊢; exact needs_append x hh

theorem headerOf_shrinks {l r h r'} (hh : headerOf l r = some (h, r')) : r'.length ≤ r.length := by
  cases l with
  | imm _ | extFix _ => cases hh; exact Nat.le_refl _
  | invalid => cases hh
  | _ => simp only [headerOf] at hh; exact needs_shrinks hh

theorem header_cons {b h r} (hh : header b = some (h, r)) : ∃ x t, b = x :: t := by
  cases b with
  | nil => cases hh
  | cons x t => exact ⟨x, t, rfl⟩

theorem header_append {b h r} (x : Bytes) (hh : header b = some (h, r)) :
    header (b ++ x) = some (h, r ++ x) := by
  obtain ⟨_, _, rfl⟩ := header_cons hh
  exact headerOf_append x hh

theorem header_shrinks {b h r} (hh : header b = some (h, r)) : r.length < b.length := by
  obtain ⟨_, _, rfl⟩ := header_cons hh
  exact Nat.lt_succ_of_le (headerOf_shrinks hh)

end FV
