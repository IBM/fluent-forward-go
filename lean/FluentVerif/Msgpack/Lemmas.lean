import FluentVerif.Msgpack.Spec
/-! What the fuelled parser computes, said without fuel: `Obj.At o b r`, "`b` begins with an encoding
of `o` and `r` follows", by recursion on `o`.  `parseF_iff` / `parseN_iff` tie the parser to it with the
exact fuel a value needs; every other fact about `parseF`, `parseN`, `parse` is read off these. -/
namespace FV

mutual
/-- the least fuel on which `parseF` / `parseN` succeed: `parseN (f+1) (n+1)` gives the same `f` to the first value and to the rest,
hence `1 + max`; it spends a unit even on an empty run, hence `nil ↦ 1` -/
def Obj.fuel : Obj → Nat
  | .arr xs => 1 + Objs.fuel xs
  | .map kvs => 1 + Objs.fuel kvs
  | _ => 1
def Objs.fuel : Objs → Nat
  | .nil => 1
  | .cons x xs => 1 + max (Obj.fuel x) (Objs.fuel xs)
end

theorem Obj.fuel_pos (o : Obj) : 0 < o.fuel := by cases o <;> simp [Obj.fuel] <;> omega
theorem Objs.fuel_pos (os : Objs) : 0 < os.fuel := by cases os <;> simp [Objs.fuel] <;> omega
theorem Obj.fuel_toObj (s : Scalar) : s.toObj.fuel = 1 := by cases s <;> rfl
theorem Obj.fuel_blobObj (k : BlobKind) (s : Bytes) : (blobObj k s).fuel = 1 := by cases k <;> rfl

/-! Every value needs a unit of fuel, so the inductions over an encoding are stated at fuel `f+1`.  These two say what is left
inside: for the run of a container, and for the first value and the rest of a run. -/

theorem Objs.fuel_succ {os : Objs} {f : Nat} (h : 1 + os.fuel ≤ f + 1) : ∃ g, f = g + 1 ∧ os.fuel ≤ g + 1 := by
  have h : os.fuel ≤ f := Nat.le_of_add_le_add_left (Nat.add_comm f 1 ▸ h)
  obtain ⟨g, rfl⟩ := Nat.exists_eq_add_one.2 (Nat.lt_of_lt_of_le os.fuel_pos h)
  exact ⟨g, rfl, h⟩

theorem Objs.fuel_cons {x : Obj} {xs : Objs} {f : Nat} (h : (Objs.cons x xs).fuel ≤ f + 1) :
    ∃ g, f = g + 1 ∧ x.fuel ≤ g + 1 ∧ xs.fuel ≤ g + 1 := by
  have hm : max x.fuel xs.fuel ≤ f := Nat.le_of_add_le_add_left (Nat.add_comm f 1 ▸ h)
  have hx := Nat.le_trans (Nat.le_max_left ..) hm
  obtain ⟨g, rfl⟩ := Nat.exists_eq_add_one.2 (Nat.lt_of_lt_of_le x.fuel_pos hx)
  exact ⟨g, rfl, hx, Nat.le_trans (Nat.le_max_right ..) hm⟩

def Objs.length : Objs → Nat
  | .nil => 0
  | .cons _ xs => xs.length + 1

mutual
/-- `b` begins with an encoding of `o`, in any format the table allows for it, and `r` follows -/
def Obj.At : Obj → Bytes → Bytes → Prop
  | .nil, b, r => header b = some (.scalar .nil, r)
  | .bool v, b, r => header b = some (.scalar (.bool v), r)
  | .int i, b, r => header b = some (.scalar (.int i), r)
  | .f32 x, b, r => header b = some (.scalar (.f32 x), r)
  | .f64 x, b, r => header b = some (.scalar (.f64 x), r)
  | .str s, b, r => header b = some (.blob .str s.length, s ++ r)
  | .bin s, b, r => header b = some (.blob .bin s.length, s ++ r)
  | .ext t d, b, r => header b = some (.ext d.length, t :: (d ++ r))
  | .arr xs, b, r => ∃ r0, header b = some (.arr xs.length, r0) ∧ Objs.At xs r0 r
  | .map xs, b, r => ∃ n r0, header b = some (.map n, r0) ∧ xs.length = 2 * n ∧ Objs.At xs r0 r
/-- … with encodings of the objects `os`, one after another -/
def Objs.At : Objs → Bytes → Bytes → Prop
  | .nil, b, r => r = b
  | .cons x xs, b, r => ∃ r1, Obj.At x b r1 ∧ Objs.At xs r1 r
end

theorem Obj.At.scalar {b s r} (h : header b = some (.scalar s, r)) : Obj.At s.toObj b r := by
  cases s <;> exact h

theorem header_blob_take {b k n r0} (h : header b = some (.blob k n, r0)) (hl : ¬ r0.length < n) :
    header b = some (.blob k (r0.take n).length, r0.take n ++ r0.drop n) := by
  rw [List.length_take_of_le (Nat.le_of_not_lt hl), List.take_append_drop]; exact h

theorem Obj.At.blob_iff {b k s r} : Obj.At (blobObj k s) b r ↔ header b = some (.blob k s.length, s ++ r) := by
  cases k <;> rfl

theorem Obj.At.blob {b k n r0} (h : header b = some (.blob k n, r0)) (hl : ¬ r0.length < n) :
    Obj.At (blobObj k (r0.take n)) b (r0.drop n) :=
  blob_iff.2 (header_blob_take h hl)

theorem Obj.At.ext {b n t d} (h : header b = some (.ext n, t :: d)) (hl : ¬ d.length < n) :
    Obj.At (.ext t (d.take n)) b (d.drop n) := by
  rw [Obj.At, List.length_take_of_le (Nat.le_of_not_lt hl), List.take_append_drop]; exact h

/-- Induction over an encoding, with the cases of the parser: three kinds of header that finish an object,
two that open a run of objects. -/
theorem At.induction {P : Obj → Bytes → Bytes → Prop} {Q : Objs → Bytes → Bytes → Prop}
    (scalar : ∀ {b s r}, header b = some (.scalar s, r) → P s.toObj b r)
    (blob : ∀ {b k s r}, header b = some (.blob k s.length, s ++ r) → P (blobObj k s) b r)
    (ext : ∀ {b t d r}, header b = some (.ext d.length, t :: (d ++ r)) → P (.ext t d) b r)
    (arr : ∀ {b r0 xs r}, header b = some (.arr xs.length, r0) → Objs.At xs r0 r → Q xs r0 r → P (.arr xs) b r)
    (map : ∀ {b n r0 xs r}, header b = some (.map n, r0) → xs.length = 2 * n → Objs.At xs r0 r → Q xs r0 r →
      P (.map xs) b r)
    (nil : ∀ {b}, Q .nil b b)
    (cons : ∀ {b x r1 xs r}, Obj.At x b r1 → P x b r1 → Objs.At xs r1 r → Q xs r1 r → Q (.cons x xs) b r) :
    (∀ {o b r}, Obj.At o b r → P o b r) ∧ (∀ {os b r}, Objs.At os b r → Q os b r) :=
  let rec go : ∀ (o : Obj) {b r : Bytes}, Obj.At o b r → P o b r
    | .nil => scalar (s := .nil)
    | .bool v => scalar (s := .bool v)
    | .int i => scalar (s := .int i)
    | .f32 x => scalar (s := .f32 x)
    | .f64 x => scalar (s := .f64 x)
    | .str _ => blob (k := .str)
    | .bin _ => blob (k := .bin)
    | .ext _ _ => ext
    | .arr xs => fun ⟨_, hh, hs⟩ => arr hh hs (gos xs hs)
    | .map xs => fun ⟨_, _, hh, hl, hs⟩ => map hh hl hs (gos xs hs),
  gos : ∀ (os : Objs) {b r : Bytes}, Objs.At os b r → Q os b r
    | .nil => fun h => h ▸ nil
    | .cons x xs => fun ⟨_, h1, h2⟩ => cons h1 (go x h1) h2 (gos xs h2)
  ⟨go _, gos _⟩

theorem parse_sound : ∀ f, (∀ {b o r}, parseF f b = some (o, r) → Obj.At o b r ∧ o.fuel ≤ f) ∧
    (∀ {n b os r}, parseN f n b = some (os, r) → (os.length = n ∧ Objs.At os b r) ∧ os.fuel ≤ f) := by
  intro f
  induction f with
  | zero => exact ⟨nofun, nofun⟩
  | succ f ih =>
    obtain ⟨ihF, ihN⟩ := ih
    refine ⟨fun {b o r} h => ?_, fun {n b os r} h => ?_⟩
    · unfold parseF at h
      split at h
      · cases h
      · next s r0 hh => cases h; exact ⟨.scalar hh, by rw [Obj.fuel_toObj]; exact Nat.succ_pos f⟩
      · next k n r0 hh =>
        obtain ⟨hl, h⟩ := Option.ite_none_left_eq_some.1 h
        cases h; exact ⟨.blob hh hl, by rw [Obj.fuel_blobObj]; exact Nat.succ_pos f⟩
      · next n r0 hh =>
        split at h
        · cases h
        · obtain ⟨hl, h⟩ := Option.ite_none_left_eq_some.1 h
          cases h; exact ⟨.ext hh hl, Nat.succ_pos f⟩
      · next n r0 hh =>
        split at h
        · next xs r' hp =>
          cases h
          obtain ⟨⟨rfl, ha⟩, hf⟩ := ihN hp
          exact ⟨⟨r0, hh, ha⟩, by simp only [Obj.fuel]; omega⟩
        · cases h
      · next n r0 hh =>
        split at h
        · next xs r' hp =>
          cases h
          have ⟨⟨hl, ha⟩, hf⟩ := ihN hp
          exact ⟨⟨n, r0, hh, hl, ha⟩, by simp only [Obj.fuel]; omega⟩
        · cases h
    · cases n with
      | zero => cases h; exact ⟨⟨rfl, rfl⟩, by simp [Objs.fuel]⟩
      | succ n =>
        unfold parseN at h
        split at h
        · cases h
        · next x r1 hx =>
          split at h
          · cases h
          · next xs r' hxs =>
            cases h
            have ⟨h1, f1⟩ := ihF hx
            obtain ⟨⟨rfl, h2⟩, f2⟩ := ihN hxs
            exact ⟨⟨rfl, r1, h1, h2⟩, by simp only [Objs.fuel]; omega⟩

theorem parseF_scalar {f b s r} (h : header b = some (.scalar s, r)) : parseF (f+1) b = some (s.toObj, r) := by
  simp [parseF, h]

theorem parseF_blob {f b k s r} (h : header b = some (.blob k s.length, s ++ r)) :
    parseF (f+1) b = some (blobObj k s, r) := by
  simp [parseF, h]

theorem parseF_ext {f b t d r} (h : header b = some (.ext d.length, t :: (d ++ r))) :
    parseF (f+1) b = some (.ext t d, r) := by
  simp [parseF, h]

theorem At.parse :
    (∀ {o b r}, Obj.At o b r → ∀ {f}, o.fuel ≤ f + 1 → parseF (f+1) b = some (o, r)) ∧
    (∀ {os b r}, Objs.At os b r → ∀ {f}, os.fuel ≤ f + 1 → parseN (f+1) os.length b = some (os, r)) :=
  At.induction
    (scalar := fun h _ _ => parseF_scalar h)
    (blob := fun h _ _ => parseF_blob h)
    (ext := fun h _ _ => parseF_ext h)
    (arr := fun hh _ ih _ hf => by obtain ⟨f, rfl, hg⟩ := Objs.fuel_succ hf; simp [parseF, hh, ih hg])
    (map := fun hh hl _ ih _ hf => by obtain ⟨f, rfl, hg⟩ := Objs.fuel_succ hf; simp [parseF, hh, ← hl, ih hg])
    (nil := fun _ => rfl)
    (cons := fun _ ih1 _ ih2 _ hf => by
      obtain ⟨f, rfl, h1, h2⟩ := Objs.fuel_cons hf
      simp [parseN, Objs.length, ih1 h1, ih2 h2])

/-- `Obj.fuel` is the exact fuel the parser needs on an encoding of the object -/
theorem parseF_iff {f b o r} : parseF f b = some (o, r) ↔ Obj.At o b r ∧ Obj.fuel o ≤ f :=
  ⟨(parse_sound f).1, fun ⟨h, hf⟩ => by
    obtain ⟨f, rfl⟩ := Nat.exists_eq_add_one.2 (Nat.lt_of_lt_of_le o.fuel_pos hf)
    exact At.parse.1 h hf⟩

theorem parseN_iff {f n b os r} :
    parseN f n b = some (os, r) ↔ (os.length = n ∧ Objs.At os b r) ∧ Objs.fuel os ≤ f :=
  ⟨(parse_sound f).2, fun ⟨⟨hl, ha⟩, hf⟩ => by
    obtain ⟨f, rfl⟩ := Nat.exists_eq_add_one.2 (Nat.lt_of_lt_of_le os.fuel_pos hf)
    exact hl ▸ At.parse.2 ha hf⟩

/-! ### what holds of every encoding

The payload of a string, binary or extension stands in front of the rest (`p ++ r`); for a scalar `p = []`. -/

theorem header_append_assoc {b h p r} (x : Bytes) (hh : header b = some (h, p ++ r)) :
    header (b ++ x) = some (h, p ++ (r ++ x)) := by
  rw [← List.append_assoc]; exact header_append x hh

theorem header_need {b h p r} (hh : header b = some (h, p ++ r)) : 1 + 2 * r.length ≤ 2 * b.length := by
  have := header_shrinks hh; simp at this; omega

theorem At.append (x : Bytes) :
    (∀ {o b r}, Obj.At o b r → Obj.At o (b ++ x) (r ++ x)) ∧
    (∀ {os b r}, Objs.At os b r → Objs.At os (b ++ x) (r ++ x)) :=
  At.induction
    (scalar := fun h => .scalar (header_append x h))
    (blob := fun {_ _ s _} h => Obj.At.blob_iff.2 (header_append_assoc x (p := s) h))
    (ext := fun {_ t d _} h => header_append_assoc x (p := t :: d) h)
    (arr := fun hh _ ih => ⟨_, header_append x hh, ih⟩)
    (map := fun hh hl _ ih => ⟨_, _, header_append x hh, hl, ih⟩)
    (nil := rfl)
    (cons := fun _ ih1 _ ih2 => ⟨_, ih1, ih2⟩)

/-- `+ 1` for a run: the empty one consumes nothing and still needs its unit -/
theorem At.need :
    (∀ {o b r}, Obj.At o b r → o.fuel + 2 * r.length ≤ 2 * b.length) ∧
    (∀ {os b r}, Objs.At os b r → os.fuel + 2 * r.length ≤ 2 * b.length + 1) :=
  At.induction
    (scalar := fun {_ s _} h => Obj.fuel_toObj s ▸ header_need (p := []) h)
    (blob := fun {_ k s _} h => Obj.fuel_blobObj k s ▸ header_need (p := s) h)
    (ext := fun {_ t d _} h => header_need (p := t :: d) h)
    (arr := fun hh _ ih => by have := header_shrinks hh; simp only [Obj.fuel]; omega)
    (map := fun hh _ _ ih => by have := header_shrinks hh; simp only [Obj.fuel]; omega)
    (nil := Nat.le_of_eq (Nat.add_comm ..))
    (cons := fun {_ x _ _ _} _ ih1 _ ih2 => by
      have := x.fuel_pos; simp only [Objs.fuel]; omega)

/-- the fuel `parse` gives itself is enough -/
theorem parse_iff {b o r} : parse b = some (o, r) ↔ Obj.At o b r :=
  ⟨fun h => (parseF_iff.1 h).1, fun h => At.parse.1 h (by have := At.need.1 h; omega)⟩

theorem parseN_mono_le {f f' n b res} (hle : f ≤ f') (h : parseN f n b = some res) : parseN f' n b = some res :=
  have ⟨ha, hf⟩ := parseN_iff.1 h
  parseN_iff.2 ⟨ha, Nat.le_trans hf hle⟩

theorem parseN_append : ∀ (f n : Nat) (b x : Bytes) (os r), parseN f n b = some (os, r) →
    parseN f n (b ++ x) = some (os, r ++ x) :=
  fun _ _ _ x _ _ h => have ⟨⟨hl, ha⟩, hf⟩ := parseN_iff.1 h; parseN_iff.2 ⟨⟨hl, (At.append x).2 ha⟩, hf⟩

theorem parseN_fuel : ∀ (f n : Nat) (b : Bytes) (os r), parseN f n b = some (os, r) →
    ∀ f', Objs.fuel os ≤ f' → parseN f' n b = some (os, r) :=
  fun _ _ _ _ _ h _ hf => parseN_iff.2 ⟨(parseN_iff.1 h).1, hf⟩

theorem parseN_need : ∀ (f n : Nat) (b : Bytes) (os r), parseN f n b = some (os, r) →
    Objs.fuel os + 2 * r.length ≤ 2 * b.length + 1 :=
  fun _ _ _ _ _ h => At.need.2 (parseN_iff.1 h).1.2

theorem parse_append {b o r} (x : Bytes) (h : parse b = some (o, r)) :
    parse (b ++ x) = some (o, r ++ x) :=
  parse_iff.2 ((At.append x).1 (parse_iff.1 h))

theorem parse_shrinks {b o r} (h : parse b = some (o, r)) : r.length < b.length := by
  have := At.need.1 (parse_iff.1 h); have := o.fuel_pos; omega

/-- msgpack is a prefix code -/
theorem parse_prefix_free {b o} (h : parse b = some (o, [])) (p y : Bytes) (hb : b = p ++ y) (hy : y ≠ []) :
    parse p = none := by
  cases hp : parse p with
  | none => rfl
  | some res =>
    obtain ⟨o', r'⟩ := res
    have := parse_append y hp
    rw [← hb, h] at this
    simp at this
    exact absurd this.2.2 hy

end FV
